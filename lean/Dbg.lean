import Dbg.Props.C01
import Dbg.Props.C01b
import Dbg.Props.C02
import Dbg.Props.C02b
import Dbg.Props.C02c
import Dbg.Props.C03
import Dbg.Props.C04
import Dbg.Props.C06
import Dbg.Props.C06b
import Dbg.Props.C06c
import Dbg.Props.C03b
import Dbg.Props.C09
import Dbg.Props.C09b
import Dbg.Props.C09c
import Dbg.Props.C09d
import Dbg.Props.C09e
import Dbg.Props.C05
import Dbg.Props.C07
import Dbg.Props.C08
import Dbg.Props.C08b
import Dbg.Props.C10
import Dbg.Props.C10b
import Dbg.Props.C11
import Dbg.Props.C12
import Dbg.Props.C12b
import Dbg.Props.C13
import Dbg.Props.C14
import Dbg.Props.C15
import Dbg.Props.C16
import Dbg.Props.C17
import Dbg.Props.C18
import Dbg.Props.C19
import Dbg.Props.C19b
import Dbg.Props.C20
import Dbg.Props.C20b
import Dbg.Props.C20c
import Dbg.Props.C20d
import Dbg.Props.C20e
