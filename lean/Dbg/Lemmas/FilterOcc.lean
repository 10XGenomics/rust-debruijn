import Dbg.Lemmas.FilterProofs
import Dbg.Lemmas.ExtBits
/-! Tables delivered by `filter_kmers` from reads (with empty boundary extensions) are well-formed and record reciprocal
    extensions: an entry records a neighbour exactly when its k-mer occurs next to it in a read (`Occ`), and occurrences
    are closed under stepping to the neighbour and under reverse complement. -/
namespace Filter
open Compress (Seq Base Exts rc minRcFlip Entry Table extend comp canonSt isPalindrome condFlip headB lastB recip
  findId WF ExtSym comp_comp)
open Walk (Dir)

def rawE (s : Seq) (K i : Nat) : Exts := mkE (if i = 0 then none else s[i - 1]?) s[i + K]?

/-- if the boundary extensions `e` are those of a base `lo` before and a base
    `ro` after the read (or none), every k-mer is paired with exactly its two neighbours -/
theorem kmerExtsOf_flanked (K : Nat) (s : Seq) (e : Exts) (lo ro : Option Base) (hl : e.val &&& 15 = bitL lo &&& 15)
    (hr : e.val &&& 240 = bitR ro &&& 240) (hK : K ≤ s.length) :
    kmerExtsOf K s e = (List.range (s.length - K + 1)).map fun i =>
      (win s K i, mkE (if i = 0 then lo else s[i - 1]?) (if i + K = s.length then ro else s[i + K]?)) := by
  unfold kmerExtsOf
  rw [if_neg (Nat.not_lt.mpr hK)]
  obtain ⟨c, hc⟩ : ∃ c, s.length = c + K := ⟨s.length - K, (Nat.sub_add_cancel hK).symm⟩
  rw [hc, Nat.add_sub_cancel]
  apply List.map_congr_left
  intro i _
  refine Prod.ext (Msp.window_eq s.toArray K i) (merge_congr ?_ ?_)
  · by_cases h0 : i = 0
    · rw [if_pos h0, if_pos h0]; exact hl
    · rw [if_neg h0, if_neg h0, List.getElem?_toArray]; rfl
  · by_cases h1 : i = c
    · rw [if_pos (congrArg (· + 1) h1), if_pos (congrArg (· + K) h1)]; exact hr
    · rw [if_neg (fun h => h1 (Nat.add_right_cancel h)), if_neg (fun h => h1 (Nat.add_right_cancel h)), List.getElem?_toArray]; rfl

theorem kmerExtsOf_zero (K : Nat) (s : Seq) :
    kmerExtsOf K s ⟨0⟩ = if s.length < K then [] else (List.range (s.length - K + 1)).map fun i => (win s K i, rawE s K i) := by
  by_cases hl : s.length < K
  · rw [if_pos hl, kmerExtsOf, if_pos hl]
  · rw [if_neg hl, kmerExtsOf_flanked K s ⟨0⟩ none none rfl rfl (Nat.le_of_not_lt hl)]
    apply List.map_congr_left
    intro i _
    unfold rawE
    by_cases h : i + K = s.length
    · rw [if_pos h, List.getElem?_eq_none (Nat.le_of_eq h.symm)]
    · rw [if_neg h]

theorem has_rawE (s : Seq) (K i : Nat) (d : Dir) (b : Base) :
    has (rawE s K i) d b ↔ (match d with | .L => 0 < i ∧ s[i - 1]? = some b | .R => s[i + K]? = some b) := by
  unfold rawE
  rw [has_mkE]
  cases d with
  | R => rfl
  | L =>
    simp only
    by_cases h0 : i = 0
    · simp [h0]
    · simp [h0]; omega

theorem rawE_lt (s : Seq) (K i : Nat) : (rawE s K i).val < 256 := (mkE_table _ _ 0).2.2

theorem win_ne_nil (s : Seq) (K i : Nat) (hK : 1 ≤ K) (hlen : i + K ≤ s.length) : win s K i ≠ [] :=
  List.ne_nil_of_length_pos (by rw [win_length s K i hlen]; exact hK)

theorem headB_win (s : Seq) (K i : Nat) (hK : 1 ≤ K) (hlen : i + K ≤ s.length) : s[i]? = some (headB (win s K i)) := by
  rw [← Compress.headB_eq _ (win_ne_nil s K i hK hlen), List.head?_eq_getElem?, win_getElem? s K i 0 hK]
  rfl

theorem lastB_win (s : Seq) (K i : Nat) (hK : 1 ≤ K) (hlen : i + K ≤ s.length) : s[i + K - 1]? = some (lastB (win s K i)) := by
  rw [← Compress.lastB_eq _ (win_ne_nil s K i hK hlen), List.getLast?_eq_getElem?, win_length s K i hlen,
    win_getElem? s K i (K - 1) (Nat.sub_lt hK Nat.one_pos), Nat.add_sub_assoc hK]

/-- `u` (as spelled, or — unstranded — as the reverse complement of what is spelled) occurs in a read with
    base `b` next to it on side `d` -/
def Occ (K : Nat) (reads : List (Seq × Exts × Nat)) (st : Bool) (u : Seq) (d : Dir) (b : Base) : Prop :=
  ∃ r ∈ reads, ∃ i, i + K ≤ r.1.length ∧
    ((u = win r.1 K i ∧ has (rawE r.1 K i) d b) ∨ (st = false ∧ u = rc (win r.1 K i) ∧ has (rawE r.1 K i) d.flip (comp b)))

/-- the base that leads back from the neighbour on side `d` -/
def back (u : Seq) : Dir → Base
  | .R => headB u
  | .L => lastB u

theorem headB_rc (x : Seq) (hx : x ≠ []) : headB (rc x) = comp (lastB x) := by
  have h1 := Compress.rc_head? x
  rw [Compress.lastB_eq x hx] at h1
  have h2 := Compress.headB_eq (rc x) (Compress.rc_ne_nil hx)
  rw [h1] at h2
  simpa using h2.symm

theorem lastB_rc (x : Seq) (hx : x ≠ []) : lastB (rc x) = comp (headB x) := by
  have h1 := Compress.rc_getLast? x
  rw [Compress.headB_eq x hx] at h1
  have h2 := Compress.lastB_eq (rc x) (Compress.rc_ne_nil hx)
  rw [h1] at h2
  simpa using h2.symm

theorem extend_comp_flip (k : Seq) (r : Base) (s : Dir) : extend k (comp r) s.flip = rc (extend (rc k) r s) := by
  cases s with
  | L => show Compress.extendRight k (comp r) = rc (Compress.extendLeft (rc k) r)
         rw [Compress.rc_extendLeft, Compress.rc_rc]
  | R => show Compress.extendLeft k (comp r) = rc (Compress.extendRight (rc k) r)
         rw [Compress.rc_extendRight, Compress.rc_rc]

theorem back_rc (x : Seq) (hx : x ≠ []) (d : Dir) : back (rc x) d = comp (back x d.flip) := by
  cases d with
  | L => exact lastB_rc x hx
  | R => exact headB_rc x hx

theorem read_step (s : Seq) (K i : Nat) (hK : 1 ≤ K) (hlen : i + K ≤ s.length) (d : Dir) (b : Base)
    (h : has (rawE s K i) d b) :
    ∃ i', i' + K ≤ s.length ∧ win s K i' = extend (win s K i) b d ∧ has (rawE s K i') d.flip (back (win s K i) d) := by
  rw [has_rawE] at h
  cases d with
  | R =>
    have hlt : i + K < s.length := (List.getElem?_eq_some_iff.mp h).1
    exact ⟨i + 1, by omega, win_succ s K i hK b h, (has_rawE ..).mpr ⟨Nat.succ_pos i, headB_win s K i hK hlen⟩⟩
  | L =>
    obtain ⟨j, rfl⟩ : ∃ j, i = j + 1 := ⟨i - 1, (Nat.sub_add_cancel h.1).symm⟩
    refine ⟨j, Nat.le_trans (Nat.add_le_add_right (Nat.le_succ j) K) hlen, win_pred s K (j + 1) hK h.1 hlen b h.2,
      (has_rawE ..).mpr ?_⟩
    have := lastB_win s K (j + 1) hK hlen
    rwa [Nat.add_right_comm, Nat.add_sub_cancel] at this

theorem occ_step (K : Nat) (hK : 1 ≤ K) (reads : List (Seq × Exts × Nat)) (st : Bool) (u : Seq) (d : Dir) (b : Base)
    (h : Occ K reads st u d b) : Occ K reads st (extend u b d) d.flip (back u d) := by
  obtain ⟨r, hr, i, hlen, hcase⟩ := h
  rcases hcase with ⟨rfl, hh⟩ | ⟨hst, rfl, hh⟩
  · obtain ⟨i', hl', hw, hb⟩ := read_step r.1 K i hK hlen d b hh
    exact ⟨r, hr, i', hl', Or.inl ⟨hw.symm, hb⟩⟩
  · obtain ⟨i', hl', hw, hb⟩ := read_step r.1 K i hK hlen d.flip (comp b) hh
    refine ⟨r, hr, i', hl', Or.inr ⟨hst, ?_, ?_⟩⟩
    · rw [hw, extend_comp_flip, Compress.rc_rc]
    · rw [back_rc _ (win_ne_nil r.1 K i hK hlen), comp_comp]; exact hb

/-- reads carry no boundary extensions (`Exts::empty()`, what the doc of `filter_kmers` asks for when complete sequences
    are passed in) -/
def NoBoundary (reads : List (Seq × Exts × Nat)) : Prop := ∀ r ∈ reads, r.2.1 = ⟨0⟩

theorem rc_of_isPal {x : Seq} (h : isPalindrome x = true) : rc x = x := by
  unfold isPalindrome at h
  simp only [Bool.and_eq_true, beq_iff_eq] at h
  exact h.2.symm

theorem canonSt_of_rc {w k : Seq} {f : Bool} (hne : rc k ≠ k) (hc : canonSt false (rc w) = (k, f)) :
    canonSt false w = (k, !f) := by
  simp only [canonSt, minRcFlip, Compress.rc_rc, Bool.false_eq_true, if_false] at hc ⊢
  rcases seq_tri w (rc w) with h | h | h
  · rw [if_neg (List.lt_asymm h), Prod.mk.injEq] at hc
    rw [if_pos h, ← hc.1, ← hc.2]; rfl
  · rw [← h, if_neg (seq_lt_irrefl _), Prod.mk.injEq] at hc
    exact absurd (by rw [← hc.1, ← h]) hne
  · rw [if_pos h, Prod.mk.injEq] at hc
    rw [if_neg (List.lt_asymm h), ← hc.1, ← hc.2]; rfl

theorem has_condFlip (E : Exts) (hE : E.val < 256) (f : Bool) (d : Dir) (b : Base) :
    has (if f then E.rc else E) (condFlip d f) (if f then comp b else b) ↔ has E d b := by
  cases f with
  | false => exact Iff.rfl
  | true => simp only [condFlip, if_true]; rw [has_rc E hE, Dir.flip_flip, comp_comp]

theorem recip_eq (x : Seq) (d : Dir) (f : Bool) : recip x d f = if f then comp (back x d) else back x d := by
  unfold recip back; cases d <;> rfl

theorem filterMap_keys_sublist (l : List Seq) (f : Seq → Option (Entry Payload)) (hf : ∀ k e, f k = some e → e.key = k) :
    ((l.filterMap f).map (·.key)).Sublist l := by
  induction l with
  | nil => exact List.Sublist.slnil
  | cons k t ih =>
    rw [List.filterMap_cons]
    cases hk : f k with
    | none => exact List.Sublist.cons _ ih
    | some e => rw [List.map_cons, hf k e hk]; exact List.Sublist.cons_cons _ ih

/-- reciprocity towards any present neighbour: it records the reciprocal base on the facing side — or, if it is a
    palindrome (whose two strands coincide), possibly as seen from the other strand: complemented, on the other side -/
def ExtSym2 {D : Type} (T : Table D) (st : Bool) : Prop :=
  ∀ (x : Nat) (ex : Entry D) (d : Dir) (b : Base) (y : Nat) (ey : Entry D), T[x]? = some ex → has ex.exts d b →
    findId T (canonSt st (extend ex.key b d)).1 = some y → T[y]? = some ey →
    has ey.exts (condFlip d.flip (canonSt st (extend ex.key b d)).2) (recip ex.key d (canonSt st (extend ex.key b d)).2) ∨
    ((!st && isPalindrome ey.key) = true ∧
      has ey.exts (condFlip d.flip (canonSt st (extend ex.key b d)).2).flip (comp (recip ex.key d (canonSt st (extend ex.key b d)).2)))

theorem ExtSym2.toExtSym {D : Type} {T : Table D} {st : Bool} (h : ExtSym2 T st) : ExtSym T st := by
  intro x ex d b y ey hx hb hy hy' _ hpy
  rcases h x ex d b y ey hx hb hy hy' with h1 | ⟨h1, _⟩
  · exact h1
  · rw [hpy] at h1; cases h1

theorem observations_plain (K : Nat) (reads : List Ob) (hb : NoBoundary reads) (st : Bool) :
    observations K reads st = reads.flatMap fun r =>
      if r.1.length < K then [] else (List.range (r.1.length - K + 1)).map fun i => canonObs st (win r.1 K i) (rawE r.1 K i) r.2.2 := by
  rw [observations_canon]
  apply List.flatMap_congr_mem
  intro r hr
  rw [hb r hr, kmerExtsOf_zero K r.1]
  split
  · rfl
  · rw [List.map_map]; rfl

theorem mem_observations (K : Nat) (_ : 1 ≤ K) (reads : List Ob) (hb : NoBoundary reads) (st : Bool) (o : Seq × Exts × Nat) :
    o ∈ observations K reads st ↔ ∃ r ∈ reads, ∃ i, i + K ≤ r.1.length ∧ o = canonObs st (win r.1 K i) (rawE r.1 K i) r.2.2 := by
  rw [observations_plain K reads hb st, List.mem_flatMap]
  refine exists_congr fun r => and_congr_right fun _ => ?_
  by_cases hl : r.1.length < K
  · rw [if_pos hl]
    exact ⟨fun h => absurd h List.not_mem_nil, fun ⟨i, hi, _⟩ => absurd hl (by omega)⟩
  · rw [if_neg hl, List.mem_map]
    refine exists_congr fun i => ?_
    rw [List.mem_range, eq_comm]
    exact and_congr_left' (by omega)

section fromReads
variable (K : Nat) (hK : 1 ≤ K) (reads : List Ob) (hb : NoBoundary reads) (sm : Summarizer) (st : Bool)

include hK hb

omit hK hb in
theorem mem_refTable (e : Entry Payload)
    (he : e ∈ refTable K reads sm st) :
    e.key ∈ distinctKeys (observations K reads st) ∧
    e.exts = ⟨(((observations K reads st).filter fun o => o.1 == e.key).map fun o => (o.2.1, o.2.2)).foldl
      (fun a o => a ||| o.1.val) 0⟩ := by
  rw [refTable_eq, List.mem_filterMap] at he
  obtain ⟨k, hk, hek⟩ := he
  obtain ⟨rfl, hx⟩ := entryOf_some hek
  exact ⟨hk, hx⟩

omit hK hb in
theorem entry_facts (e : Entry Payload)
    (he : e ∈ refTable K reads sm st) :
    e.key ∈ distinctKeys (observations K reads st) ∧
    ∀ d b, has e.exts d b ↔ ∃ o ∈ observations K reads st, o.1 = e.key ∧ has o.2.1 d b := by
  obtain ⟨hk, hx⟩ := mem_refTable K reads sm st e he
  refine ⟨hk, fun d b => ?_⟩
  rw [hx, has_fold]
  constructor
  · rintro (h | ⟨o, ho, h⟩)
    · exact absurd h (has_zero d b)
    · obtain ⟨o', ho', rfl⟩ := List.mem_map.mp ho
      rw [List.mem_filter] at ho'
      exact ⟨o', ho'.1, by simpa using ho'.2, h⟩
  · rintro ⟨o, ho, hk, h⟩
    exact Or.inr ⟨(o.2.1, o.2.2), List.mem_map.mpr ⟨o, List.mem_filter.mpr ⟨ho, by simp [hk]⟩, rfl⟩, h⟩

theorem table_occ
    (e : Entry Payload) (he : e ∈ refTable K reads sm st) (d : Dir) (b : Base) (h : has e.exts d b) :
    Occ K reads st e.key d b := by
  obtain ⟨o, ho, hk, hh⟩ := ((entry_facts K reads sm st e he).2 d b).mp h
  obtain ⟨r, hr, i, hi, rfl⟩ := (mem_observations K hK reads hb st o).mp ho
  refine ⟨r, hr, i, hi, ?_⟩
  rw [canonObs_eq] at hk hh
  rcases canonSt_cases st (win r.1 K i) with ⟨hc, _⟩ | ⟨hst, _, hc⟩
  · rw [hc] at hk hh
    exact Or.inl ⟨hk.symm, hh⟩
  · rw [hc] at hk hh
    exact Or.inr ⟨hst, hk.symm, (has_rc _ (rawE_lt _ _ _) d b).mp hh⟩

theorem spelled_table
    (r : Ob) (hr : r ∈ reads) (i : Nat) (hi : i + K ≤ r.1.length) (d : Dir) (b : Base) (h : has (rawE r.1 K i) d b)
    (ey : Entry Payload) (hey : ey ∈ refTable K reads sm st) (f : Bool) (hc : canonSt st (win r.1 K i) = (ey.key, f)) :
    has ey.exts (condFlip d f) (if f then comp b else b) := by
  rw [(entry_facts K reads sm st ey hey).2]
  refine ⟨_, (mem_observations K hK reads hb st _).mpr ⟨r, hr, i, hi, rfl⟩, ?_, ?_⟩
  · rw [canonObs_eq, hc]
  · rw [canonObs_eq, hc]
    exact (has_condFlip _ (rawE_lt _ _ _) f d b).mpr h

theorem occ_table
    (u : Seq) (d : Dir) (b : Base) (h : Occ K reads st u d b)
    (ey : Entry Payload) (hey : ey ∈ refTable K reads sm st) (f : Bool) (hc : canonSt st u = (ey.key, f))
    (hp : (!st && isPalindrome ey.key) = false) :
    has ey.exts (condFlip d f) (if f then comp b else b) := by
  obtain ⟨r, hr, i, hi, hcase⟩ := h
  rcases hcase with ⟨rfl, hh⟩ | ⟨rfl, rfl, hh⟩
  · exact spelled_table K hK reads hb sm st r hr i hi d b hh ey hey f hc
  · -- `u` is the reverse complement of the spelled k-mer, which the entry records from the other strand
    have hc' := canonSt_of_rc (Compress.notPal_ne hp) hc
    have := spelled_table K hK reads hb sm false r hr i hi d.flip (comp b) hh ey hey (!f) hc'
    cases f with
    | false => simpa only [condFlip, Bool.not_false, if_true, Bool.false_eq_true, if_false, Dir.flip_flip, comp_comp] using this
    | true => exact this

theorem kmerKey_length
    (o : Seq × Exts × Nat) (ho : o ∈ observations K reads st) : o.1.length = K ∧ (st = false → ¬ rc o.1 < o.1) ∧ o.2.1.val < 256 := by
  obtain ⟨r, hr, i, hi, rfl⟩ := (mem_observations K hK reads hb st o).mp ho
  have hl := win_length r.1 K i hi
  rw [canonObs_eq]
  rcases canonSt_cases st (win r.1 K i) with ⟨hc, hlt⟩ | ⟨_, hlt, hc⟩
  · rw [hc]
    exact ⟨hl, fun hst => List.lt_asymm (hlt hst), rawE_lt _ _ _⟩
  · rw [hc]
    exact ⟨(Compress.rc_length _).trans hl, fun _ => by rw [Compress.rc_rc]; exact hlt, Exts.rc_lt _⟩

theorem refTable_wf :
    WF (refTable K reads sm st) K st := by
  have hspec := distinctKeys_spec (observations K reads st)
  have hobs : ∀ e ∈ refTable K reads sm st, ∃ o ∈ observations K reads st, o.1 = e.key :=
    fun e he => (hspec.2 e.key).mp (entry_facts K reads sm st e he).1
  have hasc : ((refTable K reads sm st).map (·.key)).Pairwise (· < ·) := by
    rw [refTable_eq]
    exact hspec.1.sublist (filterMap_keys_sublist _ _ fun k e h => (entryOf_some h).1)
  refine ⟨hK, ?_, ?_, ?_, ?_⟩
  · intro x e hx
    obtain ⟨o, ho, hk⟩ := hobs e (List.mem_of_getElem? hx)
    rw [← hk]; exact (kmerKey_length K hK reads hb st o ho).1
  · intro x y ex ey hx hy hk
    have hnd : ((refTable K reads sm st).map (·.key)).Nodup := 
      List.nodup_iff_pairwise_ne.mpr (hasc.imp fun {a b} (h : a < b) (e : a = b) => seq_lt_irrefl b (e ▸ h))
    apply (List.getElem?_inj (by simpa using (List.getElem?_eq_some_iff.mp hx).1) hnd).mp
    rw [List.getElem?_map, List.getElem?_map, hx, hy, Option.map_some, Option.map_some, hk]
  · intro hst x e hx
    obtain ⟨o, ho, hk⟩ := hobs e (List.mem_of_getElem? hx)
    rw [← hk]; exact (kmerKey_length K hK reads hb st o ho).2.1 hst
  · intro x e hx
    rw [(mem_refTable K reads sm st e (List.mem_of_getElem? hx)).2]
    apply fold_or_lt _ _ (by decide)
    intro o ho
    obtain ⟨o', ho', rfl⟩ := List.mem_map.mp ho
    exact (kmerKey_length K hK reads hb st o' (List.mem_filter.mp ho').1).2.2

/-- an occurrence next to a palindromic k-mer is recorded by it from one strand or the other -/
theorem occ_table_pal
    (u : Seq) (d : Dir) (b : Base) (h : Occ K reads false u d b)
    (ey : Entry Payload) (hey : ey ∈ refTable K reads sm false) (f : Bool) (hc : canonSt false u = (ey.key, f))
    (hp : rc ey.key = ey.key) :
    has ey.exts (condFlip d f) (if f then comp b else b) ∨ has ey.exts (condFlip d f).flip (comp (if f then comp b else b)) := by
  -- `u` is its own reverse complement, so it is the k-mer spelled in the read on whichever strand it occurs
  obtain ⟨rfl, rfl⟩ : u = ey.key ∧ f = true := by
    rcases canonSt_cases false u with ⟨h1, hlt⟩ | ⟨_, _, h1⟩
    · rw [h1, Prod.mk.injEq] at hc
      have := hlt rfl
      rw [hc.1, hp] at this
      exact absurd this (seq_lt_irrefl _)
    · rw [h1, Prod.mk.injEq] at hc
      rw [← hc.1, Compress.rc_rc] at hp
      exact ⟨hp.trans hc.1, hc.2.symm⟩
  obtain ⟨r, hr, i, hi, hcase⟩ := h
  rcases hcase with ⟨hw, hh⟩ | ⟨_, hw, hh⟩
  · exact Or.inl (spelled_table K hK reads hb sm false r hr i hi d b hh ey hey true (hw ▸ hc))
  · have hw' : ey.key = win r.1 K i := by rw [← Compress.rc_rc (win r.1 K i), ← hw, hp]
    exact Or.inr (spelled_table K hK reads hb sm false r hr i hi d.flip (comp b) hh ey hey true (hw' ▸ hc))

theorem refTable_extSym2 :
    ExtSym2 (refTable K reads sm st) st := by
  intro x ex d b y ey hx hbit hy hy'
  have hex : ex ∈ refTable K reads sm st := List.mem_of_getElem? hx
  have hey : ey ∈ refTable K reads sm st := List.mem_of_getElem? hy'
  obtain ⟨ey', hy'', hkey⟩ := Compress.findId_some hy
  rw [hy'] at hy''; cases hy''
  have hocc := table_occ K hK reads hb sm st ex hex d b hbit
  have hstep := occ_step K hK reads st ex.key d b hocc
  rw [recip_eq]
  by_cases hp : (!st && isPalindrome ey.key) = false
  · exact Or.inl (occ_table K hK reads hb sm st (extend ex.key b d) d.flip (back ex.key d) hstep ey hey
      (canonSt st (extend ex.key b d)).2 (by rw [hkey]) hp)
  · have hp' : (!st && isPalindrome ey.key) = true := by simpa using hp
    simp only [Bool.and_eq_true, Bool.not_eq_true'] at hp'
    obtain ⟨hst, hpal⟩ := hp'
    subst hst
    rcases occ_table_pal K hK reads hb sm (extend ex.key b d) d.flip (back ex.key d) hstep ey hey
      (canonSt false (extend ex.key b d)).2 (by rw [hkey]) (rc_of_isPal hpal) with h1 | h1
    · exact Or.inl h1
    · exact Or.inr ⟨by simp [hpal], h1⟩

end fromReads

end Filter
