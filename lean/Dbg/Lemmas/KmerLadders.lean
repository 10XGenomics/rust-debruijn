import Dbg.Model.Kmer
/-! Each `reverse_by_twos` ladder, with the masks and shifts extracted from kmer.rs, reverses the 2-bit lanes of its
    word: a ladder of block swaps moves bit `i` to the composition of the steps' index maps (any width, any layers);
    that the extracted layers are block swaps and compose to the lane reversal is one evaluation of the five tables. -/

/-! One step of a `reverse_by_twos` ladder, `((x & m) << s) | ((x >> s) & m)`, exchanges neighbouring blocks of `s`
    bits when `m` selects the lower block of every pair; for any width and any block size. -/
namespace Ladder

def swapStep {w : Nat} (x m : BitVec w) (s : Nat) : BitVec w := ((x &&& m) <<< s) ||| ((x >>> s) &&& m)

def swapIdx (s i : Nat) : Nat := if i % (2 * s) < s then i + s else i - s

def IsBlockMask {w : Nat} (m : BitVec w) (s : Nat) : Prop := ∀ i, i < w → m.getLsbD i = decide (i % (2 * s) < s)

theorem add_mod_lt_iff (s j : Nat) (hs : 0 < s) : (j + s) % (2 * s) < s ↔ s ≤ j % (2 * s) := by
  have hr : j % (2 * s) < 2 * s := Nat.mod_lt _ (by omega)
  rw [← Nat.mod_add_mod]
  generalize j % (2 * s) = r at hr ⊢
  by_cases h : s ≤ r
  · rw [show r + s = 2 * s + (r - s) by omega, Nat.add_mod_left, Nat.mod_eq_of_lt (by omega)]
    omega
  · rw [Nat.mod_eq_of_lt (by omega)]
    omega

theorem swapStep_getLsbD {w : Nat} (x m : BitVec w) (s : Nat) (hs : 0 < s) (hm : IsBlockMask m s) (i : Nat) (hi : i < w) :
    (swapStep x m s).getLsbD i = x.getLsbD (swapIdx s i) := by
  unfold swapStep swapIdx
  simp only [BitVec.getLsbD_or, BitVec.getLsbD_and, BitVec.getLsbD_shiftLeft, BitVec.getLsbD_ushiftRight, hi, decide_true,
    Bool.true_and]
  rw [hm i hi, Nat.add_comm s i]
  by_cases hge : s ≤ i
  · -- the mask selects exactly one of bit `i` and the bit one block below it
    have := add_mod_lt_iff s (i - s) hs
    rw [Nat.sub_add_cancel hge] at this
    rw [hm _ (by omega)]
    by_cases hlow : i % (2 * s) < s
    · simp [hlow, show ¬ (i - s) % (2 * s) < s by omega]
    · simp [hlow, show (i - s) % (2 * s) < s by omega, show ¬ i < s by omega]
  · have hlow : i % (2 * s) < s := Nat.lt_of_le_of_lt (Nat.mod_le _ _) (by omega)
    simp [hlow, show i < s by omega]

theorem swapIdx_lt (w s i : Nat) (hw : w % (2 * s) = 0) (hi : i < w) : swapIdx s i < w := by
  unfold swapIdx
  split
  next hlow =>
    have hq : i / (2 * s) < w / (2 * s) := by
      apply Nat.div_lt_of_lt_mul
      rw [Nat.mul_comm, Nat.div_mul_cancel (Nat.dvd_of_mod_eq_zero hw)]; exact hi
    have := Nat.mul_le_mul_left (2 * s) hq
    rw [Nat.mul_succ, Nat.mul_div_cancel' (Nat.dvd_of_mod_eq_zero hw)] at this
    have := Nat.div_add_mod i (2 * s)
    omega
  next => omega

end Ladder

namespace Kmer
open Ladder

/-- the layer is `(m, s, m, s)` with `m` the block mask for `s`, in a word made of whole pairs of blocks -/
def LayerOK (w : Nat) (l : Nat × Nat × Nat × Nat) : Prop :=
  l.2.2.1 = l.1 ∧ l.2.2.2 = l.2.1 ∧ 0 < l.2.1 ∧ w % (2 * l.2.1) = 0 ∧
    ∀ i, i < w → (BitVec.ofNat w l.1).getLsbD i = decide (i % (2 * l.2.1) < l.2.1)

instance (w : Nat) (l : Nat × Nat × Nat × Nat) : Decidable (LayerOK w l) := by unfold LayerOK; exact inferInstance

def ladderIdx : List (Nat × Nat × Nat × Nat) → Nat → Nat
  | [], i => i
  | l :: ls, i => swapIdx l.2.1 (ladderIdx ls i)

theorem ladderStep_eq {w : Nat} (r : BitVec w) (l : Nat × Nat × Nat × Nat) (h : LayerOK w l) :
    ladderStep r l = swapStep r (BitVec.ofNat w l.1) l.2.1 := by
  unfold ladderStep swapStep; rw [h.1, h.2.1]

theorem ladder_getLsbD {w : Nat} : ∀ (ls : List (Nat × Nat × Nat × Nat)), (∀ l ∈ ls, LayerOK w l) →
    ∀ (x : BitVec w) (i : Nat), i < w →
      ladderIdx ls i < w ∧ (ls.foldl ladderStep x).getLsbD i = x.getLsbD (ladderIdx ls i) := by
  intro ls
  induction ls with
  | nil => intro _ x i hi; exact ⟨hi, rfl⟩
  | cons l ls ih =>
    intro h x i hi
    have hl := h l (List.mem_cons_self ..)
    obtain ⟨hlt, hbit⟩ := ih (fun l' hl' => h l' (List.mem_cons_of_mem _ hl')) (ladderStep x l) i hi
    refine ⟨swapIdx_lt w _ _ hl.2.2.2.1 hlt, ?_⟩
    rw [List.foldl_cons, hbit, ladderStep_eq x l hl]
    exact swapStep_getLsbD x _ _ hl.2.2.1 hl.2.2.2.2 _ hlt

theorem revLayers_ok : ∀ w ∈ [8, 16, 32, 64, 128],
    (∀ l ∈ revLayers w, LayerOK w l) ∧ ∀ i, i < w → ladderIdx (revLayers w) i = 2 * (w / 2 - 1 - i / 2) + i % 2 := by
  decide +kernel

/-- `reverse_by_twos` reverses the order of the 2-bit lanes and keeps each lane's two bits in place -/
theorem revTwos_spec (w : Nat) (hw : w ∈ [8, 16, 32, 64, 128]) (x : BitVec w) (i : Nat) (hi : i < w) :
    (revTwos x).getLsbD i = x.getLsbD (2 * (w / 2 - 1 - i / 2) + i % 2) := by
  obtain ⟨hl, hidx⟩ := revLayers_ok w hw
  rw [← hidx i hi]
  exact (ladder_getLsbD _ hl x i hi).2

end Kmer

/-! The u64 and u128 ladders written out with the literals of kmer.rs. -/
namespace Ladder

def rev2_64 (x : BitVec 64) : BitVec 64 :=
  let r := swapStep x 0x3333333333333333#64 2
  let r := swapStep r 0x0F0F0F0F0F0F0F0F#64 4
  let r := swapStep r 0x00FF00FF00FF00FF#64 8
  let r := swapStep r 0x0000FFFF0000FFFF#64 16
  let r := swapStep r 0x00000000FFFFFFFF#64 32
  r

theorem rev2_64_spec (x : BitVec 64) (i : Nat) (hi : i < 64) :
    (rev2_64 x).getLsbD i = x.getLsbD (2 * (31 - i / 2) + i % 2) :=
  Kmer.revTwos_spec 64 (by decide) x i hi

def rev2_128 (x : BitVec 128) : BitVec 128 :=
  let r := swapStep x 0x33333333333333333333333333333333#128 2
  let r := swapStep r 0x0F0F0F0F0F0F0F0F0F0F0F0F0F0F0F0F#128 4
  let r := swapStep r 0x00FF00FF00FF00FF00FF00FF00FF00FF#128 8
  let r := swapStep r 0x0000FFFF0000FFFF0000FFFF0000FFFF#128 16
  let r := swapStep r 0x00000000FFFFFFFF00000000FFFFFFFF#128 32
  let r := swapStep r 0x0000000000000000FFFFFFFFFFFFFFFF#128 64
  r

theorem m128_2 : IsBlockMask 0x33333333333333333333333333333333#128 2 :=
  ((Kmer.revLayers_ok 128 (by decide)).1
    (0x33333333333333333333333333333333, 2, 0x33333333333333333333333333333333, 2) (by decide)).2.2.2.2
theorem m128_64 : IsBlockMask 0x0000000000000000FFFFFFFFFFFFFFFF#128 64 :=
  ((Kmer.revLayers_ok 128 (by decide)).1 (0xFFFFFFFFFFFFFFFF, 64, 0xFFFFFFFFFFFFFFFF, 64) (by decide)).2.2.2.2
theorem idx128 : ∀ j : Fin 128,
    swapIdx 2 (swapIdx 4 (swapIdx 8 (swapIdx 16 (swapIdx 32 (swapIdx 64 j.val))))) = 2 * (63 - j.val / 2) + j.val % 2 :=
  fun j => (Kmer.revLayers_ok 128 (by decide)).2 j.val j.isLt

end Ladder
