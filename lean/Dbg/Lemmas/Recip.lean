import Dbg.Lemmas.SeqLemmas
/-! string facts behind reciprocity of links -/
namespace Compress
open Walk (Dir)

def headB (x : Seq) : Base := x.headD 0
def lastB (x : Seq) : Base := x.getLastD 0

/-- the base that leads back from the neighbour reached from `x` in direction `d` -/
def recip (x : Seq) (d : Dir) (flip : Bool) : Base :=
  let e := match d with
    | .R => headB x
    | .L => lastB x
  if flip then comp e else e

theorem lastB_eq' (x : Seq) (hx : x ≠ []) : x.getLastD 0 = x.getLast hx := by
  rw [List.getLastD_eq_getLast?, List.getLast?_eq_some_getLast hx]; rfl

theorem extend_back (x : Seq) (b : Base) (d : Dir) (hx : x ≠ []) :
    extend (extend x b d) (recip x d false) d.flip = x := by
  cases d
  · -- d = L : went left, come back with extendRight and the last base
    simp only [extend, Dir.flip, recip, lastB, extendLeft, extendRight, List.tail_cons]
    have hl := lastB_eq' x hx
    rw [hl]
    exact List.dropLast_concat_getLast hx
  · cases x with
    | nil => exact absurd rfl hx
    | cons a t =>
      simp [extend, Dir.flip, recip, headB, extendLeft, extendRight]

theorem rc_ne_nil {x : Seq} (hx : x ≠ []) : rc x ≠ [] := by
  intro h; apply hx
  have := congrArg List.length h
  simpa using this

theorem rc_getLast? (x : Seq) : (rc x).getLast? = x.head?.map comp := by
  simp [rc, List.getLast?_reverse, List.head?_map]

theorem rc_head? (x : Seq) : (rc x).head? = x.getLast?.map comp := by
  simp [rc, List.head?_reverse, List.getLast?_map]

theorem lastB_eq (x : Seq) (hx : x ≠ []) : x.getLast? = some (lastB x) := by
  unfold lastB
  rw [List.getLastD_eq_getLast?]
  cases h : x.getLast? with
  | none => simp [List.getLast?_eq_none_iff] at h; exact absurd h hx
  | some v => simp

theorem headB_eq (x : Seq) (hx : x ≠ []) : x.head? = some (headB x) := by
  cases x with
  | nil => exact absurd rfl hx
  | cons a t => simp [headB]

theorem extend_back_flip (x : Seq) (b : Base) (d : Dir) (hx : x ≠ []) :
    extend (rc (extend x b d)) (recip x d true) d = rc x := by
  cases d
  · simp only [extend, recip, if_true]
    rw [rc_extendLeft]
    simp only [extendLeft, extendRight, List.dropLast_concat]
    have h := rc_head? x
    rw [lastB_eq x hx] at h
    cases hr : rc x with
    | nil => exact absurd hr (rc_ne_nil hx)
    | cons a t =>
      rw [hr] at h
      simp at h
      simp [h]
  · simp only [extend, recip, if_true]
    rw [rc_extendRight]
    simp only [extendLeft, extendRight, List.tail_cons]
    have h := rc_getLast? x
    rw [headB_eq x hx] at h
    have hne := rc_ne_nil hx
    have h2 : (rc x).getLast hne = comp (headB x) := by
      have := List.getLast?_eq_some_getLast hne
      rw [h] at this
      simpa using this.symm
    rw [← h2]
    exact List.dropLast_concat_getLast hne

end Compress
