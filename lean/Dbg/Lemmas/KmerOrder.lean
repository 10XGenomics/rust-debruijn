import Dbg.Lemmas.KmerBits
import Dbg.Lemmas.Lex
/-! The storage integer of a k-mer is the base-4 value of its string; hence `==`, `cmp` (derived on
    `storage`) are equality and lexicographic order of strings. -/
namespace Kmer
variable {c : Cfg}

theorem get_arith (hc : c.WF) (s : St c) (pos : Nat) : get c s pos = (s.toNat / 2 ^ (addr c pos)) % 4 := by
  have hw2 : 2 ≤ c.w := by have := hc.hK; have := hc.hw; omega
  unfold get
  rw [BitVec.toNat_and, BitVec.toNat_ofNat, BitVec.toNat_ushiftRight]
  have h3 : 3 % 2 ^ c.w = 3 := by
    apply Nat.mod_eq_of_lt
    have : 2 ^ 2 ≤ 2 ^ c.w := Nat.pow_le_pow_right (by decide) hw2
    omega
  rw [h3, show (3 : Nat) = 2 ^ 2 - 1 from rfl, Nat.and_two_pow_sub_one_eq_mod, Nat.shiftRight_eq_div_pow]

theorem toNat_lt_of_inv (s : St c) (h : Inv c s) : s.toNat < 4 ^ c.K := by
  have : s.toNat < 2 ^ (2 * c.K) := by
    apply Nat.lt_pow_two_of_testBit
    intro i hi
    rw [BitVec.testBit_toNat]; exact h i hi
  rwa [Nat.pow_mul] at this

theorem val_append_single (l : List Nat) (d : Nat) : Lex.val (l ++ [d]) = 4 * Lex.val l + d := by
  simp [Lex.val, List.foldl_append]

theorem val_prefix (hc : c.WF) (s : St c) (h : Inv c s) :
    ∀ n, n ≤ c.K → Lex.val ((List.range n).map (get c s)) = s.toNat / 4 ^ (c.K - n) := by
  intro n
  induction n with
  | zero =>
    intro _
    have := toNat_lt_of_inv s h
    simp [Lex.val, Nat.div_eq_of_lt this]
  | succ n ih =>
    intro hn
    rw [List.range_succ, List.map_append, List.map_cons, List.map_nil, val_append_single, ih (by omega), get_arith hc]
    have ea : 2 ^ addr c n = 4 ^ (c.K - (n + 1)) := by
      unfold addr
      rw [show (c.K - 1 - n) * 2 = 2 * (c.K - (n + 1)) by omega, Nat.pow_mul]
    rw [ea]
    have e4 : 4 ^ (c.K - n) = 4 ^ (c.K - (n + 1)) * 4 := by
      rw [show c.K - n = (c.K - (n + 1)) + 1 by omega, Nat.pow_succ]
    rw [e4, ← Nat.div_div_eq_div_mul]
    omega

theorem toNat_eq_val (hc : c.WF) (s : St c) (h : Inv c s) : s.toNat = Lex.val (toSeq c s) := by
  have := val_prefix hc s h c.K (Nat.le_refl _)
  simp only [Nat.sub_self, Nat.pow_zero, Nat.div_one] at this
  exact this.symm

/-- Hence `==` and `Hash`, derived on `storage`, depend on the string only. -/
theorem toSeq_inj (hc : c.WF) (s t : St c) (hs : Inv c s) (ht : Inv c t) (h : toSeq c s = toSeq c t) : s = t := by
  apply BitVec.eq_of_toNat_eq
  rw [toNat_eq_val hc s hs, toNat_eq_val hc t ht, h]

theorem lt_iff_lex (hc : c.WF) (s t : St c) (hs : Inv c s) (ht : Inv c t) :
    s.toNat < t.toNat ↔ toSeq c s < toSeq c t := by
  rw [toNat_eq_val hc s hs, toNat_eq_val hc t ht]
  exact Lex.val_lt_iff_lex _ _ (by simp [toSeq_length]) (toSeq_lt4 hc s) (toSeq_lt4 hc t)

end Kmer
