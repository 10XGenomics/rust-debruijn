import Dbg.Lemmas.KmerBits
/-! Hamming distance and AT/GC counts of the packed k-mer model: each is the popcount of a word that holds, in the
    low bit of every lane, whether the position counts. -/
namespace Kmer
variable {c : Cfg}

theorem lowerOfTwo_bits : ∀ w ∈ [8, 16, 32, 64, 128], ∀ i, i < w →
    (BitVec.ofNat w (lowerOfTwo w)).getLsbD i = decide (i % 2 = 0) := by decide +kernel

theorem countP_range_congr (P Q : Nat → Bool) (n : Nat) (h : ∀ i, i < n → P i = Q i) :
    (List.range n).countP P = (List.range n).countP Q :=
  List.countP_congr fun i hi => by rw [h i (List.mem_range.mp hi)]

theorem countP_range_two_mul (f : Nat → Bool) (m : Nat) :
    (List.range (2 * m)).countP f = (List.range m).countP (fun j => f (2 * j)) + (List.range m).countP (fun j => f (2 * j + 1)) := by
  induction m with
  | zero => rfl
  | succ m ih =>
    rw [show 2 * (m + 1) = 2 * m + 1 + 1 from rfl, List.range_succ, List.range_succ, List.range_succ (n := m),
      List.countP_append, List.countP_append, List.countP_append, List.countP_append, ih]
    simp only [List.countP_cons, List.countP_nil]
    omega

theorem countP_range_trunc (P : Nat → Bool) (m n : Nat) (hmn : m ≤ n) (h : ∀ i, m ≤ i → i < n → P i = false) :
    (List.range n).countP P = (List.range m).countP P := by
  obtain ⟨d, rfl⟩ := Nat.exists_eq_add_of_le hmn
  induction d with
  | zero => rfl
  | succ d ih =>
    rw [← Nat.add_assoc, List.range_succ, List.countP_append, ih (Nat.le_add_right ..) (fun i h1 h2 => h i h1 (by omega))]
    simp [h (m + d) (Nat.le_add_right ..) (by omega)]

theorem countP_range_rev (P : Nat → Bool) (K : Nat) :
    (List.range K).countP (fun j => P (K - 1 - j)) = (List.range K).countP P := by
  have : (List.range K).map (fun j => K - 1 - j) = (List.range K).reverse := by
    apply List.ext_getElem
    · simp
    · intro i h1 h2
      simp only [List.length_map, List.length_range] at h1
      simp [List.getElem_reverse]
  have e : (List.range K).countP (fun j => P (K - 1 - j)) = ((List.range K).map (fun j => K - 1 - j)).countP P := by
    rw [List.countP_map]; rfl
  rw [e, this, List.countP_reverse]

theorem popcount_of_lanes (hc : c.WF) (y : St c) (P : Nat → Bool)
    (hlow : ∀ q, q < c.K → y.getLsbD (addr c q) = P q) (hodd : ∀ q, q < c.K → y.getLsbD (addr c q + 1) = false)
    (hhigh : ∀ i, 2 * c.K ≤ i → i < c.w → y.getLsbD i = false) :
    popcount y = (List.range c.K).countP P := by
  have hodd' : (List.range c.K).countP (fun q => y.getLsbD (2 * (c.K - 1 - q) + 1)) = 0 :=
    List.countP_eq_zero.mpr fun q hq => by
      rw [Nat.mul_comm]; exact ne_true_of_eq_false (hodd q (List.mem_range.mp hq))
  have hlow' : (List.range c.K).countP (fun q => y.getLsbD (2 * (c.K - 1 - q))) = (List.range c.K).countP P :=
    countP_range_congr _ P c.K fun q hq => by rw [Nat.mul_comm]; exact hlow q hq
  unfold popcount
  rw [countP_range_trunc _ (2 * c.K) c.w hc.hw hhigh, countP_range_two_mul,
    ← countP_range_rev (fun j => y.getLsbD (2 * j)), ← countP_range_rev (fun j => y.getLsbD (2 * j + 1)),
    hlow', hodd', Nat.add_zero]

theorem addr_mod_two (q : Nat) : addr c q % 2 = 0 ∧ (addr c q + 1) % 2 = 1 := by
  unfold addr; omega

theorem get_ne_bits (hc : c.WF) (s t : St c) (q : Nat) :
    (get c s q != get c t q) =
      ((s.getLsbD (addr c q) ^^ t.getLsbD (addr c q)) || (s.getLsbD (addr c q + 1) ^^ t.getLsbD (addr c q + 1))) := by
  rw [get_bits hc, get_bits hc]
  cases s.getLsbD (addr c q + 1) <;> cases s.getLsbD (addr c q) <;>
    cases t.getLsbD (addr c q + 1) <;> cases t.getLsbD (addr c q) <;> rfl

theorem hammingDist_spec (hc : c.WF) (hw : c.w ∈ [8, 16, 32, 64, 128]) (s t : St c) (hs : Inv c s) (ht : Inv c t) :
    hammingDist c s t = KSpec.hamming (toSeq c s) (toSeq c t) := by
  have hbit : ∀ i, i < c.w → (((s ^^^ t) ||| ((s ^^^ t) >>> 1)) &&& BitVec.ofNat c.w (lowerOfTwo c.w)).getLsbD i =
      (((s.getLsbD i ^^ t.getLsbD i) || (s.getLsbD (i + 1) ^^ t.getLsbD (i + 1))) && decide (i % 2 = 0)) := by
    intro i hi
    simp only [BitVec.getLsbD_and, BitVec.getLsbD_or, BitVec.getLsbD_xor, BitVec.getLsbD_ushiftRight,
      lowerOfTwo_bits c.w hw i hi, Nat.add_comm 1 i]
  unfold KSpec.hamming toSeq hammingDist
  rw [List.zip_map', List.countP_map]
  apply popcount_of_lanes hc
  · intro q hq
    show _ = (get c s q != get c t q)
    rw [hbit _ (by have := addr_lt hc q hq; omega), (addr_mod_two q).1, get_ne_bits hc]; simp
  · intro q hq
    rw [hbit _ (addr_lt hc q hq), (addr_mod_two q).2]; simp
  · intro i hi hiw
    rw [hbit i hiw, hs i hi, ht i hi, hs (i + 1) (by omega), ht (i + 1) (by omega)]; rfl

/-- the word counted by `at_count` (`neg = true`) / `gc_count` (`neg = false`) -/
def mixWord (c : Cfg) (s : St c) (neg : Bool) : St c :=
  let mix := if neg then ~~~((s >>> 1) ^^^ s) else (s >>> 1) ^^^ s
  if c.var then mix &&& ~~~(topMask c 0) &&& BitVec.ofNat c.w (lowerOfTwo c.w) else mix &&& BitVec.ofNat c.w (lowerOfTwo c.w)

theorem atCount_eq (s : St c) : atCount c s = popcount (mixWord c s true) := by
  unfold atCount mixWord; split <;> rfl
theorem gcCount_eq (s : St c) : gcCount c s = popcount (mixWord c s false) := by
  unfold gcCount mixWord; split <;> rfl

theorem mixWord_bits (hc : c.WF) (hw : c.w ∈ [8, 16, 32, 64, 128]) (s : St c) (neg : Bool) (i : Nat) (hi : i < c.w) :
    (mixWord c s neg).getLsbD i =
      ((neg ^^ (s.getLsbD (i + 1) ^^ s.getLsbD i)) && decide (i < 2 * c.K) && decide (i % 2 = 0)) := by
  have hmix : (if neg then ~~~((s >>> 1) ^^^ s) else (s >>> 1) ^^^ s).getLsbD i =
      (neg ^^ (s.getLsbD (i + 1) ^^ s.getLsbD i)) := by
    cases neg <;> simp [hi, Nat.add_comm 1 i]
  unfold mixWord
  cases hv : c.var
  · have := hc.hint hv
    simp only [Bool.false_eq_true, if_false, BitVec.getLsbD_and, hmix, lowerOfTwo_bits c.w hw i hi,
      show i < 2 * c.K by omega, decide_true, Bool.and_true]
  · simp only [if_true, BitVec.getLsbD_and, BitVec.getLsbD_not, hi, hmix, lowerOfTwo_bits c.w hw i hi,
      topMask_bits hc 0 i (Nat.zero_le _) hi, Nat.mul_zero, Nat.add_zero, decide_true, Bool.true_and, ← decide_not,
      Nat.not_le]

/-- a base is A or T iff its two bits agree; C or G iff they differ -/
theorem get_at_gc (hc : c.WF) (s : St c) (q : Nat) (neg : Bool) :
    (neg ^^ (s.getLsbD (addr c q + 1) ^^ s.getLsbD (addr c q))) =
      if neg then (get c s q == 0 || get c s q == 3) else (get c s q == 1 || get c s q == 2) := by
  rw [get_bits hc]
  cases neg <;> cases s.getLsbD (addr c q + 1) <;> cases s.getLsbD (addr c q) <;> rfl

theorem mix_count (hc : c.WF) (hw : c.w ∈ [8, 16, 32, 64, 128]) (s : St c) (neg : Bool) :
    popcount (mixWord c s neg) = (List.range c.K).countP fun q =>
      if neg then (get c s q == 0 || get c s q == 3) else (get c s q == 1 || get c s q == 2) := by
  apply popcount_of_lanes hc
  · intro q hq
    have := addr_add q hq
    rw [mixWord_bits hc hw s neg _ (by have := addr_lt hc q hq; omega), (addr_mod_two q).1, get_at_gc hc]
    simp; omega
  · intro q hq
    rw [mixWord_bits hc hw s neg _ (addr_lt hc q hq), (addr_mod_two q).2]; simp
  · intro i hi hiw
    rw [mixWord_bits hc hw s neg i hiw]; simp [Nat.not_lt.mpr hi]

/-- No `Inv` hypothesis: the unused bits are masked (`var`) or absent (full width). -/
theorem atCount_spec (hc : c.WF) (hw : c.w ∈ [8, 16, 32, 64, 128]) (s : St c) :
    atCount c s = KSpec.atCount (toSeq c s) := by
  rw [atCount_eq, mix_count hc hw s true]
  unfold KSpec.atCount toSeq
  rw [List.countP_map]; rfl

theorem gcCount_spec (hc : c.WF) (hw : c.w ∈ [8, 16, 32, 64, 128]) (s : St c) :
    gcCount c s = KSpec.gcCount (toSeq c s) := by
  rw [gcCount_eq, mix_count hc hw s false]
  unfold KSpec.gcCount toSeq
  rw [List.countP_map]; rfl

end Kmer
