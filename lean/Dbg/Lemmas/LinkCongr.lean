import Dbg.Lemmas.SymProof
/-! Good links do not read the extension bytes of self-complementary k-mers: two tables that agree everywhere else
    induce the same link relation. -/
namespace Compress
open Walk (Dir)
variable {D : Type}

structure TableAgree (st : Bool) (T T' : Table D) : Prop where
  len : T'.length = T.length
  ent : ∀ (i : Nat) (e e' : Entry D), T[i]? = some e → T'[i]? = some e' →
    e'.key = e.key ∧ e'.data = e.data ∧ ((!st && isPalindrome e.key) = false → e'.exts = e.exts)

theorem TableAgree.symm {st : Bool} {T T' : Table D} (h : TableAgree st T T') : TableAgree st T' T where
  len := h.len.symm
  ent := fun i e' e h' h0 => by
    obtain ⟨a, b, c⟩ := h.ent i e e' h0 h'
    exact ⟨a.symm, b.symm, fun hp => (c (by rw [← a]; exact hp)).symm⟩

theorem TableAgree.get {st : Bool} {T T' : Table D} (h : TableAgree st T T') (i : Nat) (e : Entry D) (hi : T[i]? = some e) :
    ∃ e', T'[i]? = some e' ∧ e'.key = e.key ∧ e'.data = e.data ∧ ((!st && isPalindrome e.key) = false → e'.exts = e.exts) := by
  have hlt : i < T.length := (List.getElem?_eq_some_iff.mp hi).1
  have hlt' : i < T'.length := by rw [h.len]; exact hlt
  exact ⟨T'[i], List.getElem?_eq_getElem hlt', h.ent i e T'[i] hi (List.getElem?_eq_getElem hlt')⟩

theorem TableAgree.keys {st : Bool} {T T' : Table D} (h : TableAgree st T T') : T'.map (·.key) = T.map (·.key) := by
  apply List.ext_getElem
  · simp [h.len]
  · intro i h1 h2
    simp only [List.length_map] at h1 h2
    simp only [List.getElem_map]
    exact (h.ent i T[i] T'[i] (List.getElem?_eq_getElem h2) (List.getElem?_eq_getElem h1)).1

theorem TableAgree.findId {st : Bool} {T T' : Table D} (h : TableAgree st T T') (k : Seq) : findId T' k = findId T k := by
  have e : ∀ (L : Table D), Compress.findId L k = (L.map (·.key)).findIdx? (· == k) := by
    intro L; unfold Compress.findId; rw [List.findIdx?_map]; rfl
  rw [e, e, h.keys]

theorem linkFacts_transfer {st : Bool} {join : D → D → Bool} {T T' : Table D} (h : TableAgree st T T')
    {x : Nat} {d : Dir} {y : Nat} {d' : Dir} {ex ey : Entry D} {b : Base} (f : LinkFacts T st join x d y d' ex ey b) :
    ∃ ex' ey', LinkFacts T' st join x d y d' ex' ey' b := by
  obtain ⟨hx, cntx, palx, uniq, hfind, hy, hd', cnty, hjoin, paly⟩ := f
  obtain ⟨ex', hx', kx, dx, exx⟩ := h.get x ex hx
  obtain ⟨ey', hy', ky, dy, eyy⟩ := h.get y ey hy
  have hkey' : ey.key = (canonSt st (extend ex.key b d)).1 := by
    obtain ⟨ey2, h2, k2⟩ := findId_some hfind
    rw [hy] at h2; cases h2; exact k2
  have hex := exx palx
  have hey := eyy (by rw [hkey']; exact paly)
  refine ⟨ex', ey', ⟨hx', by rw [hex]; exact cntx, by rw [kx]; exact palx, by rw [hex]; exact uniq, ?_, hy', ?_, ?_, ?_, ?_⟩⟩
  · rw [kx, h.findId]; exact hfind
  · rw [kx]; exact hd'
  · rw [kx, hey]; exact cnty
  · rw [dx, dy]; exact hjoin
  · rw [kx]; exact paly

theorem linkOf_congr {st : Bool} {join : D → D → Bool} {T T' : Table D} (h : TableAgree st T T') :
    linkOf T' st join = linkOf T st join := by
  funext x d
  cases h1 : linkOf T st join x d with
  | some yd =>
    obtain ⟨y, d'⟩ := yd
    obtain ⟨ex, ey, b, f⟩ := linkOf_inv T st join h1
    obtain ⟨ex', ey', f'⟩ := linkFacts_transfer h f
    exact linkOf_intro T' st join f'
  | none =>
    cases h2 : linkOf T' st join x d with
    | none => rfl
    | some yd =>
      obtain ⟨y, d'⟩ := yd
      obtain ⟨ex, ey, b, f⟩ := linkOf_inv T' st join h2
      obtain ⟨ex', ey', f'⟩ := linkFacts_transfer h.symm f
      rw [linkOf_intro T st join f'] at h1; cases h1

end Compress
