import Dbg.Lemmas.Nibble
import Dbg.Lemmas.Recip
/-! What a good link consists of: `linkOf T st join x d = some (y, d')` unpacked into the facts `try_extend_kmer` tested
    (`LinkFacts`), and back. -/
namespace Compress
open Walk (Dir)

variable {D : Type} (T : Table D) (st : Bool) (join : D → D → Bool)

/-- what `staticStep` has established when it names a candidate: a sole extension `b` on the leaving side of a
    non-palindromic `ex`, its target present at `y`; `ok` and `panic` report on the facing side of the target -/
theorem staticStep_cand {x : Nat} {d : Dir} {y : Nat} {d' : Dir} {ok panic : Bool} {e : Exts}
    (h : staticStep T st join x d = .cand y d' ok panic e) :
    ∃ ex ey b, T[x]? = some ex ∧ nibCnt (ex.exts.dirBits d) = 1 ∧ (!st && isPalindrome ex.key) = false ∧
      nibUniq (ex.exts.dirBits d) = some b ∧ findId T (canonSt st (extend ex.key b d)).1 = some y ∧ T[y]? = some ey ∧
      d' = condFlip d (canonSt st (extend ex.key b d)).2 ∧
      ok = (join ex.data ey.data && nibCnt (ey.exts.dirBits (condFlip d.flip (canonSt st (extend ex.key b d)).2)) == 1 &&
        !(!st && isPalindrome (canonSt st (extend ex.key b d)).1)) ∧
      panic = (nibCnt (ey.exts.dirBits (condFlip d.flip (canonSt st (extend ex.key b d)).2)) == 0 &&
        !(!st && isPalindrome (canonSt st (extend ex.key b d)).1)) := by
  unfold staticStep at h
  split at h
  · cases h
  · rename_i ex hx
    split at h
    · cases h
    · rename_i hc
      split at h
      · cases h
      · rename_i b hb
        dsimp only at h
        split at h
        · cases h
        · rename_i y1 hf
          split at h
          · cases h
          · rename_i ey hy
            simp only [Static.cand.injEq] at h
            obtain ⟨rfl, rfl, rfl, rfl, _⟩ := h
            rw [numExtDir_eq] at hc
            rw [uniqueExt_eq] at hb
            simp only [Bool.or_eq_true, bne_iff_ne, ne_eq, not_or, Decidable.not_not, Bool.not_eq_true] at hc
            simp only [hc.1, bne_self_eq_false, Bool.false_eq_true, if_false] at hb
            exact ⟨ex, ey, b, hx, hc.1, hc.2, hb, hf, hy, rfl, rfl, rfl⟩

/-- the facts packed into `linkOf T x d = some (y, d')` -/
structure LinkFacts (x : Nat) (d : Dir) (y : Nat) (d' : Dir) (ex ey : Entry D) (b : Base) : Prop where
  hx : T[x]? = some ex
  cntx : nibCnt (ex.exts.dirBits d) = 1
  palx : (!st && isPalindrome ex.key) = false
  uniq : nibUniq (ex.exts.dirBits d) = some b
  hfind : findId T (canonSt st (extend ex.key b d)).1 = some y
  hy : T[y]? = some ey
  hd' : d' = condFlip d (canonSt st (extend ex.key b d)).2
  cnty : nibCnt (ey.exts.dirBits (condFlip d.flip (canonSt st (extend ex.key b d)).2)) = 1
  hjoin : join ex.data ey.data = true
  paly : (!st && isPalindrome (canonSt st (extend ex.key b d)).1) = false

theorem linkOf_eq_some {x : Nat} {d : Dir} {y : Nat} {d' : Dir} :
    linkOf T st join x d = some (y, d') ↔ ∃ e, staticStep T st join x d = .cand y d' true false e := by
  unfold linkOf
  split
  · rename_i y0 d0 e0 heq
    rw [heq]
    constructor
    · intro h; cases h; exact ⟨e0, rfl⟩
    · rintro ⟨e, he⟩; cases he; rfl
  · rename_i hne
    simp only [reduceCtorEq, false_iff, not_exists]
    exact fun e he => hne y d' e he

theorem linkOf_inv {x d y d'} (h : linkOf T st join x d = some (y, d')) :
    ∃ ex ey b, LinkFacts T st join x d y d' ex ey b := by
  obtain ⟨e, hs⟩ := (linkOf_eq_some T st join).mp h
  obtain ⟨ex, ey, b, hx, cntx, palx, uniq, hfind, hy, hd', hok, _⟩ := staticStep_cand T st join hs
  simp only [Bool.true_eq, Bool.and_eq_true, beq_iff_eq, Bool.not_eq_true'] at hok
  exact ⟨ex, ey, b, hx, cntx, palx, uniq, hfind, hy, hd', hok.1.2, hok.1.1, hok.2⟩

theorem linkOf_intro {x d y d' ex ey b} (f : LinkFacts T st join x d y d' ex ey b) :
    linkOf T st join x d = some (y, d') := by
  obtain ⟨hx, cntx, palx, uniq, hfind, hy, hd', cnty, hjoin, paly⟩ := f
  have hs : staticStep T st join x d = .cand y d' true false (ex.exts.singleDir d) := by
    unfold staticStep
    simp only [hx]
    have c1 : (ex.exts.numExtDir d != 1 || (!st && isPalindrome ex.key)) = false := by
      rw [numExtDir_eq, cntx, palx]; rfl
    simp only [c1, Bool.false_eq_true, if_false]
    have c2 : ex.exts.uniqueExt d = some b := by
      rw [uniqueExt_eq, cntx]; simpa using uniq
    simp only [c2, hfind, hy]
    rw [numExtDir_eq, cnty, hjoin, paly, hd']
    rfl
  unfold linkOf
  rw [hs]

end Compress
