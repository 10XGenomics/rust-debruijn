import Dbg.Lemmas.Block64
import Dbg.Lemmas.KmerCount
import Dbg.Lemmas.RcList
/-! Refinement of the `DnaString` model to plain base vectors.  A well-formed value is determined by its
    normal form `flat d = toSeq d ++ zeros` (`flat_eq_pad`, `inv_of_flat`); every operation is shown to
    produce that form again. -/

theorem List.set_append_zeros (s : List Nat) (k v : Nat) (hk : 1 ≤ k) :
    (s ++ List.replicate k 0).set s.length v = s ++ [v] ++ List.replicate (k - 1) 0 := by
  obtain ⟨k, rfl⟩ : ∃ k', k = k' + 1 := ⟨k - 1, by omega⟩
  rw [List.set_append_right _ _ (Nat.le_refl _), Nat.sub_self, List.replicate_succ, List.set_cons_zero, List.append_assoc]; rfl

theorem List.eq_take_append_zeros (F : List Nat) (n m : Nat) (hm : F.length = n + m)
    (hz : ∀ i, n ≤ i → i < n + m → F[i]? = some 0) : F = F.take n ++ List.replicate m 0 := by
  have hd : (F.drop n).length = m := by rw [List.length_drop, hm, Nat.add_sub_cancel_left]
  refine (List.take_append_drop n F).symm.trans (congrArg _ (List.eq_replicate_iff.mpr ⟨hd, fun b hb => ?_⟩))
  obtain ⟨i, hi, rfl⟩ := List.getElem_of_mem hb
  have := hz (n + i) (Nat.le_add_right n i) (Nat.add_lt_add_left (hd ▸ hi) n)
  rw [← List.getElem?_drop, List.getElem?_eq_getElem hi] at this
  exact Option.some.inj this

/-- two lists no longer than `n` that agree below `n` are equal -/
theorem List.ext_of_le {α} {a b : List α} (n : Nat) (ha : a.length ≤ n) (hb : b.length ≤ n)
    (h : ∀ q, q < n → a[q]? = b[q]?) : a = b :=
  List.ext_getElem? fun q => if hq : q < n then h q hq else by
    rw [List.getElem?_eq_none (by omega), List.getElem?_eq_none (by omega)]

namespace DnaStr
open Block64

def flat (d : T) : List Nat := d.storage.flatMap blockSeq
def toSeq (d : T) : List Nat := (flat d).take d.len

theorem flat_length (d : T) : (flat d).length = 32 * d.storage.length := lanes_length _

structure Inv (d : T) : Prop where
  blocks : d.storage.length = (d.len + 31) / 32
  pad : ∀ i, d.len ≤ i → i < 32 * d.storage.length → (flat d)[i]? = some 0

theorem Inv.le {d : T} (h : Inv d) : d.len ≤ 32 * d.storage.length := by rw [h.blocks]; omega

theorem toSeq_length (d : T) (h : Inv d) : (toSeq d).length = d.len := by
  unfold toSeq; rw [List.length_take, flat_length]; exact Nat.min_eq_left h.le

theorem flat_eq_pad (d : T) (h : Inv d) : flat d = toSeq d ++ List.replicate (32 * d.storage.length - d.len) 0 :=
  List.eq_take_append_zeros (flat d) d.len _ (by rw [flat_length, Nat.add_sub_cancel' h.le])
    (fun i h1 h2 => h.pad i h1 (by rwa [Nat.add_sub_cancel' h.le] at h2))

theorem inv_of_flat (d : T) (s : List Nat) (hs : s.length = d.len) (hb : d.storage.length = (d.len + 31) / 32)
    (hf : flat d = s ++ List.replicate (32 * d.storage.length - d.len) 0) : Inv d ∧ toSeq d = s := by
  refine ⟨⟨hb, fun i h1 h2 => ?_⟩, by unfold toSeq; rw [hf, List.take_left' hs]⟩
  rw [hf, List.getElem?_append_right (hs ▸ h1), List.getElem?_replicate, hs, if_pos (Nat.sub_lt_sub_right h1 h2)]

theorem addr_eq (i : Nat) : addr i = (i / 32, 2 * (i % 32)) := by
  show (i * 2 / (32 * 2), i * 2 % (32 * 2)) = _
  rw [Nat.mul_div_mul_right _ _ (by decide), Nat.mul_mod_mul_right, Nat.mul_comm]

theorem get_eq_lane (d : T) (i : Nat) : get d i = (flat d)[i]? := by
  unfold get flat
  rw [addr_eq, lanes_getElem_div]
  dsimp only
  cases d.storage[i / 32]? with
  | none => rfl
  | some b => exact congrArg some (dna_blockGet_eq b _)

theorem get_spec (d : T) (h : Inv d) (i : Nat) (hi : i < d.len) : get d i = (toSeq d)[i]? := by
  rw [get_eq_lane]; exact (List.getElem?_take_of_lt hi).symm

theorem toSeq_lt4 (d : T) : ∀ b ∈ toSeq d, b < 4 := by
  intro b hb
  obtain ⟨i, hi, e⟩ := List.getElem_of_mem (List.mem_of_mem_take hb)
  exact lanes_lt4 d.storage i b (by rw [← e]; exact List.getElem?_eq_getElem hi)

theorem setMut_spec (d : T) (h : Inv d) (i v : Nat) (hi : i < d.len) (hv : v < 4) :
    ∃ d', setMut d i v = some d' ∧ Inv d' ∧ toSeq d' = (toSeq d).set i v ∧ d'.len = d.len := by
  have hblk : i / 32 < d.storage.length := Nat.div_lt_of_lt_mul (Nat.lt_of_lt_of_le hi h.le)
  have hl := toSeq_length d h
  unfold setMut
  rw [addr_eq]
  simp only [List.getElem?_eq_getElem hblk]
  obtain ⟨i', s'⟩ := inv_of_flat ⟨d.storage.set (i / 32) (blockSet d.storage[i / 32] (2 * (i % 32)) v), d.len⟩
    ((toSeq d).set i v) (by rw [List.length_set]; exact hl) (by rw [List.length_set]; exact h.blocks)
    (by show List.flatMap _ _ = _
        rw [dna_blockSet_eq _ _ _ hv, lanes_setMut _ _ _ v hblk (Nat.mod_lt _ (by decide)) hv, Nat.div_add_mod, List.length_set, ← flat, flat_eq_pad d h, List.set_append_left _ _ (by omega)])
  exact ⟨_, rfl, i', s', rfl⟩

/-- ⌈len/32⌉ for `len` in lane `r` of block `B`, and for the next length -/
theorem blocks_coords (B r : Nat) (hr : r < 32) :
    (32 * B + r + 31) / 32 = (if r = 0 then B else B + 1) ∧ (32 * B + r + 1 + 31) / 32 = B + 1 := by
  refine ⟨?_, by omega⟩
  split <;> omega

theorem push_spec (d : T) (h : Inv d) (v : Nat) (hv : v < 4) :
    ∃ d', push d v = some d' ∧ Inv d' ∧ toSeq d' = toSeq d ++ [v] := by
  have hl := toSeq_length d h
  have hpad := flat_eq_pad d h
  -- the new base goes to lane `r` of block `B`
  obtain ⟨B, r, hr, hn⟩ := lane_coords d.len
  have hS : d.storage.length = if r = 0 then B else B + 1 := by rw [h.blocks, hn]; exact (blocks_coords B r hr).1
  unfold push
  rw [addr_eq]
  simp only
  rw [show d.len / 32 = B by rw [hn]; exact lane_div B r hr, show d.len % 32 = r by rw [hn]; exact lane_mod B r hr]
  -- the (possibly grown) storage: one more zero block exactly when the last block is full
  obtain ⟨st, hst, hlen, hF⟩ : ∃ st,
      (if (2 * r == 0 && decide (B ≥ d.storage.length)) = true then d.storage ++ [0#64] else d.storage) = st ∧
      st.length = B + 1 ∧ st.flatMap blockSeq = toSeq d ++ List.replicate (32 - r) 0 := by
    by_cases h0 : r = 0
    · rw [if_pos h0] at hS
      refine ⟨_, if_pos (by simp [h0, hS]), by rw [List.length_append, hS]; rfl, ?_⟩
      rw [List.flatMap_append, List.flatMap_singleton, blockSeq_zero, ← flat, hpad, hS, hn, h0, Nat.add_zero, Nat.sub_self,
        List.replicate_zero, List.append_nil]
    · rw [if_neg h0] at hS
      refine ⟨_, if_neg (by simp [hS]), hS, ?_⟩
      rw [← flat, hpad, hS, hn, Nat.mul_succ, Nat.add_sub_add_left]
  rw [hst, List.getElem?_eq_getElem (show B < st.length by rw [hlen]; exact Nat.lt_succ_self B)]
  obtain ⟨i', s'⟩ := inv_of_flat ⟨st.set B (blockSet st[B] (2 * r) v), d.len + 1⟩ (toSeq d ++ [v])
    (by rw [List.length_append, hl]; rfl)
    (by show (st.set _ _).length = (d.len + 1 + 31) / 32; rw [List.length_set, hlen, hn]; exact (blocks_coords B r hr).2.symm)
    (by show (st.set _ _).flatMap blockSeq = toSeq d ++ [v] ++ List.replicate (32 * (st.set _ _).length - (d.len + 1)) 0
        rw [dna_blockSet_eq _ _ _ hv, lanes_setMut st B r v (by rw [hlen]; exact Nat.lt_succ_self B) hr hv, ← hn, List.length_set, hF, hlen,
          ← hl, List.set_append_zeros (toSeq d) (32 - r) v (Nat.sub_pos_of_lt hr), hl, hn, Nat.mul_succ, Nat.add_assoc (32 * B),
          Nat.add_sub_add_left, Nat.sub_add_eq])
  exact ⟨_, rfl, i', s'⟩

theorem pushFold_spec {ι} (step : Option T → ι → Option T) (val : ι → Nat) (is : List ι)
    (hstep : ∀ d, ∀ i ∈ is, step (some d) i = push d (val i)) (hv : ∀ i ∈ is, val i < 4) (d : T) (h : Inv d) :
    ∃ d', is.foldl step (some d) = some d' ∧ Inv d' ∧ toSeq d' = toSeq d ++ is.map val ∧ d'.len = d.len + is.length := by
  have key : ∃ d', is.foldl step (some d) = some d' ∧ Inv d' ∧ toSeq d' = toSeq d ++ is.map val := by
    induction is generalizing d with
    | nil => exact ⟨d, rfl, h, (List.append_nil _).symm⟩
    | cons i is ih =>
      obtain ⟨d1, e1, i1, s1⟩ := push_spec d h _ (hv i List.mem_cons_self)
      obtain ⟨d2, e2, i2, s2⟩ := ih (fun d j hj => hstep d j (List.mem_cons_of_mem _ hj))
        (fun j hj => hv j (List.mem_cons_of_mem _ hj)) d1 i1
      exact ⟨d2, by rw [List.foldl_cons, hstep d i List.mem_cons_self, e1, e2], i2,
        by rw [s2, s1, List.map_cons, List.append_assoc]; rfl⟩
  obtain ⟨d', e, i, s⟩ := key
  exact ⟨d', e, i, s, by rw [← toSeq_length d' i, s, List.length_append, toSeq_length d h, List.length_map]⟩

theorem pushAll_spec (vs : List Nat) (d : T) (h : Inv d) (hv : ∀ v ∈ vs, v < 4) :
    ∃ d', vs.foldl (fun acc v => acc.bind (push · v)) (some d) = some d' ∧ Inv d' ∧ toSeq d' = toSeq d ++ vs ∧
      d'.len = d.len + vs.length := by
  have := pushFold_spec (fun acc v => acc.bind (push · v)) id vs (fun _ _ _ => rfl) hv d h
  rwa [List.map_id] at this

theorem or_lane_zero (v : BitVec 64) (j b : Nat) (hz : Kmer.get k32 v j = 0) :
    v ||| (BitVec.ofNat 64 b <<< (62 - 2 * j)) = Kmer.setMut k32 v j b := by
  unfold Kmer.setMut
  rw [Kmer.get_bits k32_wf, addr_k32] at hz
  rw [addr_k32]
  congr 1
  apply BitVec.eq_of_getLsbD_eq
  intro i hi
  have h3 : ((3#64) <<< (62 - 2 * j)).getLsbD i = (decide (62 - 2 * j ≤ i) && (3 : Nat).testBit (i - (62 - 2 * j))) :=
    Kmer.ofNat_shift_bits 64 3 _ i (by decide) hi
  simp only [BitVec.getLsbD_and, BitVec.getLsbD_not, hi, decide_true, Bool.true_and, h3]
  by_cases h1 : i = 62 - 2 * j
  · subst h1
    cases hh : v.getLsbD (62 - 2 * j)
    · rfl
    · rw [hh] at hz; simp at hz
  · by_cases h2 : i = 62 - 2 * j + 1
    · subst h2
      cases hh : v.getLsbD (62 - 2 * j + 1)
      · rfl
      · rw [hh] at hz; simp at hz
    · by_cases h4 : 62 - 2 * j ≤ i
      · rw [Kmer.testBit_lt4 3 _ (by decide) (by omega)]; simp
      · simp [h4]

def packStep (acc : Option Block) (bi : Nat × Nat) : Option Block :=
  match acc with
  | none => none
  | some v => if bi.1 < 4 then some (v ||| (BitVec.ofNat 64 bi.1 <<< (62 - 2 * bi.2))) else none

theorem packFold (chunk : List Nat) (k m : Nat) (v : Block) (pre : List Nat) (hpre : pre.length = k) (hk : k + chunk.length + m = 32)
    (hv : ∀ b ∈ chunk, b < 4) (hz : blockSeq v = pre ++ List.replicate (chunk.length + m) 0) :
    ∃ v', (chunk.zipIdx k).foldl packStep (some v) = some v' ∧ blockSeq v' = pre ++ chunk ++ List.replicate m 0 := by
  induction chunk generalizing k v pre with
  | nil => exact ⟨v, rfl, by rw [hz, List.append_nil, List.length_nil, Nat.zero_add]⟩
  | cons b rest ih =>
    rw [List.length_cons] at hz hk
    rw [Nat.add_right_comm rest.length 1 m] at hz
    have hb : b < 4 := hv b List.mem_cons_self
    have hk32 : k < 32 := by omega
    have hz0 : Kmer.get k32 v k = 0 := by
      have := blockSeq_get v k hk32
      rw [hz, List.getElem?_append_right (Nat.le_of_eq hpre), hpre, Nat.sub_self, List.replicate_succ, List.getElem?_cons_zero] at this
      exact (Option.some.inj this).symm
    have hset : blockSeq (v ||| (BitVec.ofNat 64 b <<< (62 - 2 * k))) = (pre ++ [b]) ++ List.replicate (rest.length + m) 0 := by
      rw [or_lane_zero v k b hz0, blockSeq_setMut v k b hk32 hb, hz, ← hpre,
        List.set_append_zeros pre _ b (Nat.succ_pos _)]; rfl
    obtain ⟨v', e, s⟩ := ih (k + 1) _ (pre ++ [b]) (by rw [List.length_append, hpre]; rfl) (by omega)
      (fun x hx => hv x (List.mem_cons_of_mem _ hx)) hset
    refine ⟨v', ?_, by rw [s, List.append_assoc pre, List.singleton_append]⟩
    rw [List.zipIdx_cons, List.foldl_cons]
    show List.foldl packStep (if b < 4 then _ else none) _ = _
    rw [if_pos hb]; exact e

theorem packChunk_spec (chunk : List Nat) (hk : chunk.length ≤ 32) (hv : ∀ b ∈ chunk, b < 4) :
    ∃ v, packChunk chunk = some v ∧ blockSeq v = chunk ++ List.replicate (32 - chunk.length) 0 :=
  packFold chunk 0 (32 - chunk.length) 0#64 [] rfl (by omega) hv (by rw [blockSeq_zero, Nat.add_sub_cancel' hk]; rfl)

/-- phase 2 of `extend`, on the storage alone: it appends blocks whose lanes are `bytes` and `p < 32` zeros -/
theorem extendChunks_storage (d : T) (bytes : List Nat) (hv : ∀ b ∈ bytes, b < 4) :
    ∃ bs p, extendChunks d bytes = some ⟨d.storage ++ bs, d.len + bytes.length⟩ ∧
      bytes.length + p = 32 * bs.length ∧ p < 32 ∧ bs.flatMap blockSeq = bytes ++ List.replicate p 0 := by
  fun_induction extendChunks d bytes with
  | case1 d => exact ⟨[], 0, by rw [List.append_nil]; rfl, rfl, by decide, rfl⟩
  | case2 d bytes hne chunk hp =>
    obtain ⟨v, e, _⟩ := packChunk_spec chunk (List.length_take_le _ _) (fun b hb => hv b (List.mem_of_mem_take hb))
    rw [hp] at e; cases e
  | case3 d bytes hne chunk v hp ih =>
    obtain ⟨v', e, sv⟩ := packChunk_spec chunk (List.length_take_le _ _) (fun b hb => hv b (List.mem_of_mem_take hb))
    rw [hp] at e; cases e
    by_cases hlast : bytes.length ≤ 32
    · -- the last chunk: nothing follows
      obtain ⟨p, hp⟩ : ∃ p, bytes.length + p = 32 := ⟨_, Nat.add_sub_cancel' hlast⟩
      have hc : chunk = bytes := List.take_of_length_le hlast
      rw [hc, ← hp, Nat.add_sub_cancel_left] at sv
      refine ⟨[v], p, ?_, hp, ?_, by rw [List.flatMap_singleton]; exact sv⟩
      · rw [List.drop_eq_nil_of_le hlast, extendChunks, dif_pos rfl, hc]
      · exact Nat.lt_of_lt_of_le (Nat.lt_add_of_pos_left (List.length_pos_iff.mpr hne)) (Nat.le_of_eq hp)
    · -- a whole chunk, then the rest
      have hc : chunk.length = 32 := List.length_take_of_le (Nat.le_of_not_le hlast)
      have hsum : chunk.length + (bytes.drop 32).length = bytes.length := by rw [← List.length_append, List.take_append_drop]
      obtain ⟨bs, p, e', hp, hp32, hf⟩ := ih (fun b hb => hv b (List.mem_of_mem_drop hb))
      refine ⟨v :: bs, p, ?_, ?_, hp32, ?_⟩
      · rw [e', List.append_assoc, Nat.add_assoc, hsum]; rfl
      · rw [← hsum, hc, List.length_cons, Nat.mul_succ, ← hp, Nat.add_assoc, Nat.add_comm 32]
      · rw [List.flatMap_cons, sv, hc, Nat.sub_self, List.replicate_zero, List.append_nil, hf, ← List.append_assoc,
          List.take_append_drop]

/-- phase 2 of `extend` -/
theorem extendChunks_spec (d : T) (bytes : List Nat) (h : Inv d) (h0 : d.len % 32 = 0) (hv : ∀ b ∈ bytes, b < 4) :
    ∃ d', extendChunks d bytes = some d' ∧ Inv d' ∧ toSeq d' = toSeq d ++ bytes := by
  obtain ⟨bs, p, e, hp, hp32, hf⟩ := extendChunks_storage d bytes hv
  have hfull : 32 * d.storage.length = d.len := by have := h.blocks; omega
  obtain ⟨i, s⟩ := inv_of_flat ⟨d.storage ++ bs, d.len + bytes.length⟩ (toSeq d ++ bytes)
    (by rw [List.length_append, toSeq_length d h])
    (by show (d.storage ++ bs).length = (d.len + bytes.length + 31) / 32; rw [List.length_append]; omega)
    (by show (d.storage ++ bs).flatMap blockSeq = _ ++ List.replicate (32 * (d.storage ++ bs).length - (d.len + bytes.length)) 0
        rw [List.flatMap_append, hf, ← flat, flat_eq_pad d h, hfull, Nat.sub_self, List.replicate_zero, List.append_nil,
          List.append_assoc, List.length_append, Nat.mul_add, hfull, ← hp, Nat.add_sub_add_left, Nat.add_sub_cancel_left])
  exact ⟨_, e, i, s⟩

theorem extend_aligned (d : T) (h0 : d.len % 32 = 0) (bytes : List Nat) : extend d bytes = extendChunks d bytes := by
  cases bytes with
  | nil => rw [extendChunks, dif_pos rfl]; rfl
  | cons b rest => rw [extend, h0]; rfl

theorem extend_spec (bytes : List Nat) (d : T) (h : Inv d) (hv : ∀ b ∈ bytes, b < 4) :
    ∃ d', extend d bytes = some d' ∧ Inv d' ∧ toSeq d' = toSeq d ++ bytes := by
  induction bytes generalizing d with
  | nil => exact ⟨d, rfl, h, (List.append_nil _).symm⟩
  | cons b rest ih =>
    by_cases h0 : d.len % 32 = 0
    · rw [extend_aligned d h0]
      exact extendChunks_spec d (b :: rest) h h0 hv
    · unfold extend
      rw [if_pos (by simp [h0])]
      obtain ⟨d1, e1, i1, s1⟩ := push_spec d h b (hv b List.mem_cons_self)
      obtain ⟨d2, e2, i2, s2⟩ := ih d1 i1 (fun x hx => hv x (List.mem_cons_of_mem _ hx))
      exact ⟨d2, by rw [e1]; exact e2, i2, by rw [s2, s1, List.append_assoc]; rfl⟩

theorem inv_new : Inv new := ⟨rfl, fun _ _ hj => absurd hj (Nat.not_lt_zero _)⟩
theorem toSeq_new : toSeq new = [] := rfl

theorem fromBytes_spec (bytes : List Nat) (hv : ∀ b ∈ bytes, b < 4) :
    ∃ d, fromBytes bytes = some d ∧ Inv d ∧ toSeq d = bytes ∧ d.len = bytes.length := by
  obtain ⟨d, e, i, s⟩ := extend_spec bytes new inv_new hv
  exact ⟨d, e, i, s, by rw [← toSeq_length d i, s]; rfl⟩

theorem toBytes_spec (d : T) (h : Inv d) : toBytes d = some (toSeq d) := by
  have hl := toSeq_length d h
  unfold toBytes
  rw [← hl]
  exact List.mapM_range_eq _ _ (fun i hi => get_spec d h i (by omega))

theorem reverse_spec (d : T) (h : Inv d) : ∃ d', reverse d = some d' ∧ Inv d' ∧ toSeq d' = (toSeq d).reverse := by
  unfold reverse
  rw [toBytes_spec d h]
  obtain ⟨d', e, i, s, _⟩ := pushAll_spec (toSeq d).reverse new inv_new (fun v hv => toSeq_lt4 d v (List.mem_reverse.mp hv))
  exact ⟨d', e, i, s⟩

theorem rc_spec (d : T) (h : Inv d) : ∃ d', rc d = some d' ∧ Inv d' ∧ toSeq d' = (toSeq d).reverse.map (3 - ·) := by
  unfold rc
  rw [toBytes_spec d h]
  exact extend_spec ((toSeq d).reverse.map (3 - ·)) new inv_new (fun v hv => by
    obtain ⟨x, _, rfl⟩ := List.mem_map.mp hv; omega)

theorem inv_clear (d : T) : Inv (clear d) ∧ toSeq (clear d) = [] := ⟨inv_new, rfl⟩

theorem blank_spec (n : Nat) : Inv (blank n) ∧ toSeq (blank n) = List.replicate n 0 := by
  have hb : blank n = ⟨List.replicate ((n + 31) / 32) 0#64, n⟩ := by
    unfold blank
    show T.mk (List.replicate (((n * 2) >>> 6) + (if (n * 2) &&& 0x3F > 0 then 1 else 0)) 0#64) n = _
    rw [Nat.shiftRight_eq_div_pow, show (0x3F : Nat) = 2 ^ 6 - 1 from rfl, Nat.and_two_pow_sub_one_eq_mod]
    congr 2
    split <;> omega
  rw [hb]
  apply inv_of_flat
  · exact List.length_replicate
  · exact List.length_replicate
  · show (List.replicate _ 0#64).flatMap blockSeq = _
    rw [lanes_replicate_zero, List.replicate_append_replicate, List.length_replicate]
    congr 1; show _ = n + (_ - n); omega

/-- the representation is canonical (same `storage` vector and `len`), so the derived `==` and `Hash` are those of
    the base vector -/
theorem repr_inj (a b : T) (ha : Inv a) (hb : Inv b) (h : toSeq a = toSeq b) : a = b := by
  have hl : a.len = b.len := by rw [← toSeq_length a ha, ← toSeq_length b hb, h]
  have hst : a.storage = b.storage := by
    apply lanes_inj
    rw [← flat, ← flat, flat_eq_pad a ha, flat_eq_pad b hb, h, ha.blocks, hb.blocks, hl]
  obtain ⟨sa, la⟩ := a
  obtain ⟨sb, lb⟩ := b
  exact congr (congrArg T.mk hst) hl

theorem append_lt_append_iff (x y xs ys : List Nat) (h : x.length = y.length) :
    x ++ xs < y ++ ys ↔ x < y ∨ (x = y ∧ xs < ys) := by
  induction x generalizing y with
  | nil => rw [List.eq_nil_of_length_eq_zero h.symm]; simp
  | cons a x ih =>
    cases y with
    | nil => cases h
    | cons b y =>
      simp only [List.cons_append, List.cons_lt_cons_iff, ih y (Nat.succ.inj h), List.cons.injEq, and_or_left, or_assoc, and_assoc]

theorem block_lt (a b : BitVec 64) : a.toNat < b.toNat ↔ blockSeq a < blockSeq b :=
  Kmer.lt_iff_lex k32_wf a b (inv_k32 a) (inv_k32 b)

theorem cmpStorage_cons (a b : Block) (A B : List Block) :
    cmpStorage (a :: A) (b :: B) = (compare a.toNat b.toNat).then (cmpStorage A B) := by
  rw [cmpStorage, Nat.compare_eq_ite_lt]
  split
  · rfl
  · split <;> rfl

theorem cmpStorage_eq (A B : List Block) : cmpStorage A B = .eq ↔ A = B := by
  induction A generalizing B with
  | nil => cases B <;> simp [cmpStorage]
  | cons a A ih =>
    cases B with
    | nil => simp [cmpStorage]
    | cons b B => rw [cmpStorage_cons, Ordering.then_eq_eq, Nat.compare_eq_eq, ih, List.cons.injEq, BitVec.toNat_inj]

theorem cmpStorage_lt (A B : List Block) : cmpStorage A B = .lt ↔ A.flatMap blockSeq < B.flatMap blockSeq := by
  induction A generalizing B with
  | nil =>
    cases B with
    | nil => simp [cmpStorage]
    | cons b B =>
      simp only [cmpStorage, List.flatMap_nil, List.flatMap_cons, true_iff]
      cases hb : blockSeq b with
      | nil => have := blockSeq_length b; rw [hb] at this; cases this
      | cons c t => exact List.nil_lt_cons _ _
  | cons a A ih =>
    cases B with
    | nil => simp [cmpStorage]
    | cons b B =>
      have hinj : blockSeq a = blockSeq b ↔ a = b := ⟨blockSeq_inj a b, congrArg _⟩
      rw [cmpStorage_cons, Ordering.then_eq_lt, Nat.compare_eq_lt, Nat.compare_eq_eq, ih, List.flatMap_cons, List.flatMap_cons,
        append_lt_append_iff _ _ _ _ (by rw [blockSeq_length, blockSeq_length]), block_lt, BitVec.toNat_inj, hinj]

theorem zeros_le (p : Nat) (L : List Nat) (h : p ≤ L.length) : List.replicate p 0 < L ∨ List.replicate p 0 = L := by
  induction p generalizing L with
  | zero => cases L <;> simp
  | succ p ih =>
    cases L with
    | nil => exact absurd h (Nat.not_succ_le_zero _)
    | cons a L =>
      rw [List.replicate_succ, List.cons_lt_cons_iff, List.cons.injEq]
      rcases Nat.eq_zero_or_pos a with rfl | ha
      · exact (ih L (Nat.le_of_succ_le_succ h)).imp (fun h1 => Or.inr ⟨rfl, h1⟩) (fun h1 => ⟨rfl, h1⟩)
      · exact Or.inl (Or.inl ha)

/-- zero-padding to a length that grows with the string's, then comparing lengths, is strictly monotone -/
theorem pad_mono {x y : List Nat} (h : x < y) (p q : Nat) (hpq : x.length ≤ y.length → x.length + p ≤ y.length + q) :
    x ++ List.replicate p 0 < y ++ List.replicate q 0 ∨
      (x ++ List.replicate p 0 = y ++ List.replicate q 0 ∧ x.length < y.length) := by
  induction h with
  | nil =>
    have := hpq (Nat.zero_le _)
    exact (zeros_le p _ (by simp at this ⊢; omega)).imp id fun e => ⟨e, Nat.succ_pos _⟩
  | rel h => exact Or.inl (List.Lex.rel h)
  | cons h ih =>
    simp only [List.length_cons] at hpq
    exact (ih fun hl => by have := hpq (Nat.succ_le_succ hl); omega).imp List.Lex.cons
      fun ⟨e, l⟩ => ⟨congrArg _ e, Nat.succ_lt_succ l⟩

theorem cmp_lt_key (a b : T) : cmp a b = .lt ↔ flat a < flat b ∨ (flat a = flat b ∧ a.len < b.len) := by
  unfold cmp
  cases hc : cmpStorage a.storage b.storage with
  | lt => exact ⟨fun _ => Or.inl ((cmpStorage_lt _ _).mp hc), fun _ => rfl⟩
  | gt =>
    refine ⟨fun h => (by cases h), ?_⟩
    rintro (h | ⟨h, _⟩)
    · rw [(cmpStorage_lt a.storage b.storage).mpr h] at hc; cases hc
    · rw [(cmpStorage_eq _ _).mpr (lanes_inj a.storage b.storage h)] at hc; cases hc
  | eq =>
    have hf : flat a = flat b := congrArg (List.flatMap blockSeq) ((cmpStorage_eq _ _).mp hc)
    simp only [Nat.compare_eq_lt]
    refine ⟨fun h => Or.inr ⟨hf, h⟩, ?_⟩
    rintro (h | ⟨_, h⟩)
    · rw [hf] at h; exact absurd h (List.lt_irrefl _)
    · exact h

theorem cmp_lt_of_lt (a b : T) (ha : Inv a) (hb : Inv b) (h : toSeq a < toSeq b) : cmp a b = .lt := by
  -- the padded length is the number of lanes, monotone in the length
  have mono : a.len ≤ b.len → a.len + (32 * a.storage.length - a.len) ≤ b.len + (32 * b.storage.length - b.len) := fun hab => by
    rw [Nat.add_sub_cancel' ha.le, Nat.add_sub_cancel' hb.le, ha.blocks, hb.blocks]
    exact Nat.mul_le_mul_left 32 (Nat.div_le_div_right (Nat.add_le_add_right hab 31))
  have := pad_mono h _ _ (by rw [toSeq_length a ha, toSeq_length b hb]; exact mono)
  rwa [← flat_eq_pad a ha, ← flat_eq_pad b hb, toSeq_length a ha, toSeq_length b hb, ← cmp_lt_key] at this

theorem cmp_eq_iff (a b : T) (ha : Inv a) (hb : Inv b) : cmp a b = .eq ↔ toSeq a = toSeq b := by
  constructor
  · unfold cmp
    cases hc : cmpStorage a.storage b.storage with
    | lt => intro h; cases h
    | gt => intro h; cases h
    | eq =>
      simp only [Nat.compare_eq_eq]
      intro h
      unfold toSeq flat; rw [(cmpStorage_eq _ _).mp hc, h]
  · intro h
    rw [repr_inj a b ha hb h]
    unfold cmp
    rw [(cmpStorage_eq _ _).mpr rfl]
    exact Nat.compare_eq_eq.mpr rfl

/-- **derived `Ord`** = lexicographic order of the base vectors (a proper prefix first) -/
theorem cmp_lt_iff (a b : T) (ha : Inv a) (hb : Inv b) : cmp a b = .lt ↔ toSeq a < toSeq b := by
  refine ⟨fun h => Classical.byContradiction fun hlt => ?_, cmp_lt_of_lt a b ha hb⟩
  -- otherwise `toSeq b ≤ toSeq a`, and `cmp` would say so
  rcases List.le_iff_lt_or_eq.mp (List.not_lt.mp hlt) with h' | h'
  · rcases (cmp_lt_key a b).mp h with h1 | ⟨e1, l1⟩ <;> rcases (cmp_lt_key b a).mp (cmp_lt_of_lt b a hb ha h') with h2 | ⟨e2, l2⟩
    · exact List.lt_asymm h1 h2
    · rw [e2] at h1; exact List.lt_irrefl _ h1
    · rw [e1] at h2; exact List.lt_irrefl _ h2
    · omega
  · rw [(cmp_eq_iff a b ha hb).mpr h'.symm] at h; cases h
theorem countDiff_spec (a b : Block) : countDiff2Bit a b = KSpec.hamming (blockSeq a) (blockSeq b) :=
  Kmer.hammingDist_spec k32_wf (by decide) a b (inv_k32 a) (inv_k32 b)

theorem hamming_append (x y xs ys : List Nat) (h : x.length = y.length) :
    KSpec.hamming (x ++ xs) (y ++ ys) = KSpec.hamming x y + KSpec.hamming xs ys := by
  unfold KSpec.hamming
  rw [List.zip_append h, List.countP_append]

theorem ndiffs_blocks (A B : List Block) (h : A.length = B.length) (n : Nat) :
    (A.zip B).foldl (fun acc p => acc + countDiff2Bit p.1 p.2) n = n + KSpec.hamming (A.flatMap blockSeq) (B.flatMap blockSeq) := by
  induction A generalizing B n with
  | nil => cases B <;> rfl
  | cons a A ih =>
    cases B with
    | nil => cases h
    | cons b B =>
      rw [List.zip_cons_cons, List.foldl_cons, ih B (Nat.succ.inj h), List.flatMap_cons, List.flatMap_cons,
        hamming_append _ _ _ _ (by rw [blockSeq_length, blockSeq_length]), countDiff_spec, Nat.add_assoc]

theorem hamming_zeros (n m : Nat) : KSpec.hamming (List.replicate n 0) (List.replicate m 0) = 0 := by
  unfold KSpec.hamming
  rw [List.countP_eq_zero]
  intro p hp
  have h1 := (List.of_mem_zip hp).1; have h2 := (List.of_mem_zip hp).2
  rw [List.mem_replicate] at h1 h2
  simp [h1.2, h2.2]

def unpackBytes (bytes : List Nat) (n : Nat) : List Nat :=
  (List.range n).map fun i => ((bytes.getD (i / 4) 0) >>> (2 * (i % 4))) &&& 3

/-- one round of the loop of `push_bytes` -/
def pushBytesStep (bytes : List Nat) (acc : Option T) (i : Nat) : Option T :=
  match acc with
  | none => none
  | some d =>
    match bytes[(i * Gen.dnaWidth) / 8]? with
    | some v => push d ((v >>> ((i * Gen.dnaWidth) % 8)) &&& (Gen.dnaMask % 256))
    | none => none

theorem pushBytesStep_eq (bytes : List Nat) (d : T) (i : Nat) (hi : i / 4 < bytes.length) :
    pushBytesStep bytes (some d) i = push d (((bytes.getD (i / 4) 0) >>> (2 * (i % 4))) &&& 3) := by
  show (match bytes[i * 2 / (4 * 2)]? with
    | some v => push d ((v >>> (i * 2 % (4 * 2))) &&& 3)
    | none => none) = _
  rw [Nat.mul_div_mul_right _ _ (by decide), Nat.mul_mod_mul_right, Nat.mul_comm, List.getD_eq_getElem?_getD,
    List.getElem?_eq_getElem hi]; rfl

/-- **`push_bytes(bytes, n)`** appends the first `n` 2-bit fields (and panics exactly when there are fewer) -/
theorem pushBytes_spec (d : T) (h : Inv d) (bytes : List Nat) (n : Nat) :
    (n ≤ bytes.length * 4 → ∃ d', pushBytes d bytes n = some d' ∧ Inv d' ∧ toSeq d' = toSeq d ++ unpackBytes bytes n ∧
      d'.len = d.len + n) ∧ (¬ n ≤ bytes.length * 4 → pushBytes d bytes n = none) := by
  have e : bytes.length * 8 / Gen.dnaWidth = bytes.length * 4 := by show bytes.length * 8 / 2 = _; omega
  unfold pushBytes
  rw [e]
  refine ⟨fun hn => ?_, fun hn => if_pos hn⟩
  rw [if_neg (fun h => h hn)]
  have := pushFold_spec (pushBytesStep bytes) _ (List.range n)
    (fun d i hi => pushBytesStep_eq bytes d i (by rw [List.mem_range] at hi; omega))
    (fun i _ => Nat.lt_succ_of_le Nat.and_le_right) d h
  rwa [List.length_range] at this

theorem toAsciiVec_spec (d : T) (h : Inv d) : toAsciiVec d = some ((toSeq d).map bitsToAscii) := by
  unfold toAsciiVec; rw [toBytes_spec d h]; rfl
theorem display_spec (d : T) (h : Inv d) : display d = some ((toSeq d).map bitsToBase) := by
  unfold display; rw [toBytes_spec d h]; rfl

structure PSet.Inv (s : PSet) (added : List (List Nat)) : Prop where
  seq : DnaStr.Inv s.sequence
  cat : toSeq s.sequence = added.flatten
  n1 : s.start.length = added.length
  n2 : s.length.length = added.length
  pos : ∀ i (hi : i < added.length), s.start[i]? = some ((added.take i).flatten.length) ∧ s.length[i]? = some (added[i].length)

theorem PSet.inv_new : PSet.Inv PSet.new [] := ⟨DnaStr.inv_new, rfl, rfl, rfl, fun i hi => by simp at hi⟩

/-- **`PackedDnaStringSet::add`** (sequence shorter than 2³² bases, the width of the stored length) -/
theorem PSet.add_spec (s : PSet) (added : List (List Nat)) (h : PSet.Inv s added) (seq : List Nat) (hv : ∀ b ∈ seq, b < 4)
    (hlen : seq.length < 2 ^ 32) :
    ∃ s', PSet.add s seq = some s' ∧ PSet.Inv s' (added ++ [seq]) := by
  obtain ⟨d, e, i, sq, l⟩ := pushAll_spec seq s.sequence h.seq hv
  unfold PSet.add
  rw [e]
  refine ⟨_, rfl, ⟨i, ?_, ?_, ?_, ?_⟩⟩
  · show toSeq d = _; rw [sq, h.cat]; simp
  · simp [h.n1]
  · simp [h.n2]
  · intro j hj
    rw [List.length_append, List.length_singleton] at hj
    dsimp only
    by_cases hj' : j < added.length
    · obtain ⟨p1, p2⟩ := h.pos j hj'
      exact ⟨by rw [List.getElem?_append_left (h.n1 ▸ hj'), p1, List.take_append_of_le_length (Nat.le_of_lt hj')],
        by rw [List.getElem?_append_left (h.n2 ▸ hj'), p2, List.getElem_append_left hj']⟩
    · obtain rfl : j = added.length := by omega
      constructor
      · rw [List.getElem?_append_right (Nat.le_of_eq h.n1), h.n1, Nat.sub_self, List.getElem?_cons_zero, List.take_left',
          ← toSeq_length _ h.seq, h.cat]
        rfl
      · rw [List.getElem?_append_right (Nat.le_of_eq h.n2), h.n2, Nat.sub_self, List.getElem?_cons_zero, Nat.mod_eq_of_lt hlen,
          List.getElem_append_right (Nat.le_refl _)]
        simp

theorem PSet.get_spec (s : PSet) (added : List (List Nat)) (h : PSet.Inv s added) (i : Nat) (hi : i < added.length) :
    PSet.get s i = some added[i] := by
  obtain ⟨p1, p2⟩ := h.pos i hi
  unfold PSet.get
  rw [p1, p2]
  -- the bases at start .. start+len of the concatenation
  have hsplit : added.flatten = (added.take i).flatten ++ (added[i] ++ (added.drop (i + 1)).flatten) := by
    rw [← List.flatten_cons, ← List.flatten_append, ← List.drop_eq_getElem_cons hi, List.take_append_drop]
  refine List.mapM_range_eq _ _ (fun j hj => ?_)
  have hlt : (added.take i).flatten.length + j < s.sequence.len := by
    rw [← toSeq_length _ h.seq, h.cat, hsplit, List.length_append, List.length_append]; omega
  rw [DnaStr.get_spec s.sequence h.seq _ hlt, h.cat, hsplit, List.getElem?_append_right (by omega), Nat.add_sub_cancel_left,
    List.getElem?_append_left hj]

end DnaStr
