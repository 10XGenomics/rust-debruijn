import Dbg.Lemmas.Ports
/-! Operations on oriented chains: monotonicity in the link relation, reversal as a whole, concatenation of several
    chains whose ends are joined by links. -/
namespace Compress
open Walk (Dir Link Sym)

theorem linkedFrom_mono (l1 l2 : Link) (h : ∀ x d r, l1 x d = some r → l2 x d = some r) :
    ∀ (cs : List (Nat × Dir)) (x : Nat) (d : Dir), LinkedFrom l1 x d cs → LinkedFrom l2 x d cs := by
  intro cs
  induction cs with
  | nil => intro _ _ _; trivial
  | cons c t ih =>
    intro x d hx
    obtain ⟨c1, c2⟩ := c
    exact ⟨h x d _ hx.1, ih c1 c2 hx.2⟩

theorem ochain_mono (l1 l2 : Link) (h : ∀ x d r, l1 x d = some r → l2 x d = some r) (cs : List (Nat × Dir)) (hc : OChain l1 cs) :
    OChain l2 cs := by
  cases cs with
  | nil => trivial
  | cons c t => exact linkedFrom_mono l1 l2 h t c.1 c.2 hc

theorem ochain_rev (link : Link) (hs : Sym link) (cs : List (Nat × Dir)) (hc : OChain link cs) :
    OChain link (cs.map flip2).reverse := by
  cases cs with
  | nil => trivial
  | cons c t =>
    have := ochain_reverse link hs c.1 c.2 t hc
    simpa [List.map_cons, List.reverse_cons] using this

theorem ochain_join (link : Link) (c1 c2 : List (Nat × Dir)) (h1 : OChain link c1) (h2 : OChain link c2)
    (a b : Nat × Dir) (ha : c1.getLast? = some a) (hb : c2.head? = some b) (hl : link a.1 a.2 = some b) : OChain link (c1 ++ c2) := by
  cases c1 with
  | nil => cases ha
  | cons x t =>
    cases c2 with
    | nil => cases hb
    | cons y t2 =>
      cases hb
      rw [List.getLast?_cons] at ha
      refine (linkedFrom_append_iff link t (b :: t2) x.1 x.2).mpr ⟨h1, ?_⟩
      rw [show lastPort t x.1 x.2 = a from Option.some.inj ha]
      exact ⟨hl, h2⟩

def Joined {α} (link : Link) (och : α → List (Nat × Dir)) : List α → Prop
  | [] => True
  | [_] => True
  | c :: c' :: rest => (∃ a b, (och c).getLast? = some a ∧ (och c').head? = some b ∧ link a.1 a.2 = some b) ∧ Joined link och (c' :: rest)

theorem head?_flatMap_cons {α β} (f : α → List β) (a : α) (t : List α) (h : f a ≠ []) : ((a :: t).flatMap f).head? = (f a).head? := by
  rw [List.flatMap_cons, List.head?_append]
  cases hfa : f a with
  | nil => exact absurd hfa h
  | cons x xs => rfl

theorem getLast?_flatMap_snoc {α β} (f : α → List β) (t : List α) (a : α) (h : f a ≠ []) :
    ((t ++ [a]).flatMap f).getLast? = (f a).getLast? := by
  rw [List.flatMap_append, List.flatMap_cons, List.flatMap_nil, List.append_nil, List.getLast?_append]
  cases hfa : (f a).getLast? with
  | none => exact absurd (List.getLast?_eq_none_iff.mp hfa) h
  | some x => rfl

theorem ochain_flatMap {α} (link : Link) (och : α → List (Nat × Dir)) :
    ∀ (cs : List α), (∀ c ∈ cs, OChain link (och c) ∧ och c ≠ []) → Joined link och cs → OChain link (cs.flatMap och) := by
  intro cs
  induction cs with
  | nil => intro _ _; trivial
  | cons c t ih =>
    intro hoc hj
    cases t with
    | nil =>
      rw [List.flatMap_cons, List.flatMap_nil, List.append_nil]
      exact (hoc c (List.mem_cons_self ..)).1
    | cons c' rest =>
      obtain ⟨⟨a, b, ha, hb, hl⟩, hj'⟩ : (∃ a b, (och c).getLast? = some a ∧ (och c').head? = some b ∧ link a.1 a.2 = some b) ∧ Joined link och (c' :: rest) := hj
      rw [List.flatMap_cons]
      have hrest := ih (fun x hx => hoc x (List.mem_cons_of_mem _ hx)) hj'
      apply ochain_join link _ _ (hoc c (List.mem_cons_self ..)).1 hrest a b ha _ hl
      rw [head?_flatMap_cons och c' rest (hoc c' (by simp)).2]
      exact hb

end Compress
