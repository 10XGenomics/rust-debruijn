import Dbg.Lemmas.KmerOrder
import Dbg.Lemmas.ListWindow
/-! `KmerOneHammingIter`: the iterator enumerates exactly the `3 K` strings at Hamming distance 1. -/
namespace Kmer
variable (c : Cfg)

/-- what the iterator yields at one position for one candidate base -/
def hItem (s : St c) (p ch : Nat) : Option (St c) := if get c s p = ch then none else some (setMut c s p ch)

def posItems (s : St c) (p : Nat) : List (St c) := (List.range' 0 4).filterMap (hItem c s p)

/-- what is left to yield from position `p`, candidate `ch` -/
def rem (s : St c) (p ch : Nat) : List (St c) :=
  (List.range' ch (4 - ch)).filterMap (hItem c s p) ++ (List.range' (p + 1) (c.K - (p + 1))).flatMap (posItems c s)

def remOf (it : HIter c) : List (St c) := if c.K ≤ it.position then [] else rem c it.source it.position it.ch

/-- after base 3 the iterator moves to the next position -/
theorem remOf_next_pos (it : HIter c) (hp : ¬ c.K ≤ it.position) (h : 4 ≤ it.ch) :
    remOf c it = remOf c ⟨it.source, it.position + 1, 0⟩ := by
  unfold remOf
  rw [if_neg hp]
  unfold rem
  rw [show 4 - it.ch = 0 by omega, List.range'_zero, List.filterMap_nil, List.nil_append]
  by_cases hq : c.K ≤ it.position + 1
  · rw [if_pos hq, show c.K - (it.position + 1) = 0 by omega]; rfl
  · rw [if_neg hq, show c.K - (it.position + 1) = (c.K - (it.position + 1 + 1)) + 1 by omega, List.range'_succ,
      List.flatMap_cons]
    rfl

theorem remOf_next_ch (it : HIter c) (hp : ¬ c.K ≤ it.position) (h : ¬ 4 ≤ it.ch) :
    remOf c it = (hItem c it.source it.position it.ch).toList ++ remOf c ⟨it.source, it.position, it.ch + 1⟩ := by
  unfold remOf
  rw [if_neg hp, if_neg hp]
  unfold rem
  rw [show 4 - it.ch = (4 - (it.ch + 1)) + 1 by omega, List.range'_succ, List.filterMap_cons]
  cases hItem c it.source it.position it.ch <;> rfl

theorem next_spec (it : HIter c) :
    (HIter.next c it).2 = (remOf c it).head? ∧ remOf c (HIter.next c it).1 = (remOf c it).tail := by
  fun_induction HIter.next c it with
  | case1 it h => simp [remOf, h]
  | case2 it h1 h2 ih => rw [remOf_next_pos c it h1 h2]; exact ih
  | case3 it h1 h2 h3 ih =>
    rw [remOf_next_ch c it h1 h2, show hItem c it.source it.position it.ch = none from if_pos h3]
    exact ih
  | case4 it h1 h2 h3 =>
    rw [remOf_next_ch c it h1 h2, show hItem c it.source it.position it.ch = some _ from if_neg h3]
    exact ⟨rfl, rfl⟩

theorem collect_spec : ∀ (n : Nat) (it : HIter c), HIter.collect c n it = (remOf c it).take n := by
  intro n
  induction n with
  | zero => intro it; simp [HIter.collect]
  | succ n ih =>
    intro it
    unfold HIter.collect
    obtain ⟨h1, h2⟩ := next_spec c it
    cases hn : HIter.next c it with
    | mk it' o =>
      rw [hn] at h1 h2
      simp only at h1 h2
      cases hr : remOf c it with
      | nil =>
        rw [hr] at h1; simp only [List.head?_nil] at h1; subst h1
        simp
      | cons x r =>
        rw [hr] at h1 h2
        simp only [List.head?_cons, List.tail_cons] at h1 h2
        subst h1
        simp only [List.take_succ_cons]
        rw [ih it', h2]

theorem length_flatMap_le {α β} (g : α → List β) (b : Nat) : ∀ (l : List α), (∀ x ∈ l, (g x).length ≤ b) →
    (l.flatMap g).length ≤ b * l.length := by
  intro l
  induction l with
  | nil => intro _; simp
  | cons a t ih =>
    intro h
    rw [List.flatMap_cons, List.length_append, List.length_cons]
    have := ih (fun x hx => h x (List.mem_cons_of_mem _ hx))
    have := h a (List.mem_cons_self ..)
    rw [Nat.mul_add]; omega

theorem hd1_eq (s : St c) : hd1 c s = (List.range' 0 c.K).flatMap (posItems c s) := by
  unfold hd1
  rw [collect_spec]
  have hfull : remOf c ⟨s, 0, 0⟩ = (List.range' 0 c.K).flatMap (posItems c s) := by
    unfold remOf
    simp only
    by_cases hK : c.K ≤ 0
    · rw [if_pos hK]
      have : c.K = 0 := by omega
      rw [this]; rfl
    · rw [if_neg hK]
      unfold rem
      have : c.K = (c.K - (0 + 1)) + 1 := by omega
      conv => rhs; rw [this, List.range'_succ, List.flatMap_cons]
      rfl
  rw [hfull]
  apply List.take_of_length_le
  have := length_flatMap_le (posItems c s) 4 (List.range' 0 c.K) (fun p _ => by
    unfold posItems
    exact Nat.le_trans (List.length_filterMap_le _ _) (by simp))
  simpa using this

theorem filterMap_congr' {α β} {f g : α → Option β} : ∀ {l : List α}, (∀ x ∈ l, f x = g x) → l.filterMap f = l.filterMap g := by
  intro l
  induction l with
  | nil => intro _; rfl
  | cons a t ih =>
    intro h
    rw [List.filterMap_cons, List.filterMap_cons, h a (List.mem_cons_self ..), ih (fun x hx => h x (List.mem_cons_of_mem _ hx))]

theorem toSeq_hd1 (hc : c.WF) (s : St c) : (hd1 c s).map (toSeq c) = KSpec.hd1 (toSeq c s) := by
  rw [hd1_eq]
  unfold KSpec.hd1
  rw [toSeq_length, List.map_flatMap, ← List.range_eq_range']
  apply List.flatMap_congr_mem
  intro p hp
  have hpK : p < c.K := List.mem_range.mp hp
  unfold posItems
  rw [List.map_filterMap, ← List.range_eq_range']
  apply filterMap_congr'
  intro ch hch
  have hch4 : ch < 4 := List.mem_range.mp hch
  have hget : (toSeq c s).getD p 99 = get c s p := by
    unfold toSeq
    rw [List.getD_eq_getElem?_getD, List.getElem?_map, List.getElem?_range hpK]
    rfl
  rw [hget]
  unfold hItem
  by_cases hg : get c s p = ch
  · simp [hg]
  · simp only [hg, if_false, Option.map_some]
    rw [toSeq_setMut hc s p ch hpK hch4]

end Kmer
