import Dbg.Props.C09
import Dbg.Props.C03
/-! Orientation of re-compression paths: stranded graphs are never walked reverse-complemented. -/
namespace CompressGraph
open Compress (Node)
open Walk (Dir)
open Graph
variable {D : Type} (g : G D) (st : Bool) (join : D → D → Bool) (reduce : D → D → D)

theorem buildNode_has_seed (avail : List Nat) (seed : Nat)
    (nd : Node D) (path : List (Nat × Dir)) (a' : List Nat) (h : buildNode g st join reduce avail seed = some (nd, path, a')) :
    (seed, Dir.L) ∈ path := by
  obtain ⟨_, lpath, rpath, _, _, _, _, _, _, rfl, _⟩ := buildNode_some g st join reduce avail seed nd path a' h
  simp

theorem stepOK_dir (g : G D) (hst : g.stranded = true) (a b : Nat × Dir) (h : StepOK g a b) : b.2 = a.2 := by
  rcases h with ⟨es, f, he, hm⟩ | ⟨es, f, he, hm⟩
  · obtain ⟨nd, c, _, _, hl⟩ := C03_edges_justified g a.1 a.2.flip es he _ hm
    obtain ⟨_, _, _, hf0, hf1⟩ := findLink_sound g _ _ _ _ _ hl
    cases f with
    | false => have := hf0 rfl; rw [this, Dir.flip_flip]
    | true => have := (hf1 rfl).2; rw [hst] at this; cases this
  · obtain ⟨nd, c, _, _, hl⟩ := C03_edges_justified g b.1 b.2 es he _ hm
    obtain ⟨_, _, _, hf0, hf1⟩ := findLink_sound g _ _ _ _ _ hl
    cases f with
    | false =>
      have := congrArg Dir.flip (hf0 rfl)
      rw [Dir.flip_flip, Dir.flip_flip] at this
      exact this.symm
    | true => have := (hf1 rfl).2; rw [hst] at this; cases this

theorem chainStep_dirs (g : G D) (hst : g.stranded = true) : ∀ (rest : List (Nat × Dir)) (p : Nat × Dir), ChainStep g p rest →
    ∀ q ∈ rest, q.2 = p.2 := by
  intro rest
  induction rest with
  | nil => intro p _ q hq; cases hq
  | cons r t ih =>
    intro p h q hq
    have h1 := stepOK_dir g hst p r h.1
    rcases List.mem_cons.mp hq with rfl | hq'
    · exact h1
    · rw [ih r h.2 q hq', h1]

theorem isChain_dirs (g : G D) (hst : g.stranded = true) (path : List (Nat × Dir)) (h : IsChain g path) :
    ∀ q ∈ path, ∀ q' ∈ path, q.2 = q'.2 := by
  cases path with
  | nil => intro q hq; cases hq
  | cons p rest =>
    have hall : ∀ q ∈ p :: rest, q.2 = p.2 := by
      intro q hq
      rcases List.mem_cons.mp hq with rfl | hq'
      · rfl
      · exact chainStep_dirs g hst rest p h q hq'
    intro q hq q' hq'
    rw [hall q hq, hall q' hq']

/-- **stranded re-compression never reverse-complements a node**: every entry of every path is in forward orientation -/
theorem compressGraph_dirs_stranded (g : G D) (hK : 1 ≤ g.K) (hl : ∀ (i : Nat) (n : Node D), g.nodes[i]? = some n → g.K ≤ n.seq.length)
    (hst : g.stranded = true) (st : Bool) (join : D → D → Bool) (reduce : D → D → D) (censor : List Nat)
    (g' : G D) (paths : List (List (Nat × Dir))) (h : compressGraph st g join reduce censor = some (g', paths)) :
    ∀ p ∈ paths, ∀ q ∈ p, q.2 = Dir.L := by
  obtain ⟨nodes, hloop, _, rfl⟩ := compressGraph_some st g join reduce censor g' paths h
  have sh1 := fixExts_shape g (some ((List.range g.nodes.length).filter fun i => !censor.contains i))
  intro p hp q hq
  obtain ⟨np, hnp, rfl⟩ := List.mem_map.mp hp
  obtain ⟨av, seed, a', _, _, hb⟩ := compressLoop_built _ st join reduce _ _ nodes hloop np hnp
  obtain ⟨_, hc, _⟩ := buildNode_kmers _ (by rw [sh1.1]; exact hK) (shape_len g _ sh1 hl) st join reduce av seed np.1 np.2 a' hb
  exact isChain_dirs _ (by rw [sh1.2.1]; exact hst) np.2 hc q hq (seed, Dir.L) (buildNode_has_seed _ st join reduce av seed np.1 np.2 a' hb)

end CompressGraph
