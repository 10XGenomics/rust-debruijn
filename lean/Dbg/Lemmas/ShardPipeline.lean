import Dbg.Lemmas.ShardFinal
import Dbg.Lemmas.ShardTables
/-! From the concrete shard tables (bucket parts of the reference table, optionally pruned the sharded way, each in the
    order of its hash map) to the sandwich property. -/
namespace Compress
open Walk (Dir Conn Rel)
open Filter (has ExtSym2 removeCensoredExts removeCensoredExtsSharded extTarget)
variable {D : Type}

theorem filterMap_range_get {α} (l : List α) : ((List.range l.length).filterMap fun i => l[i]?) = l := by
  induction l with
  | nil => rfl
  | cons a t ih =>
    rw [List.length_cons, List.range_succ_eq_map, List.filterMap_cons]
    simp only [List.getElem?_cons_zero]
    rw [List.filterMap_map]
    congr 1

theorem perm_of_sigma {α} (l : List α) (sigma : List Nat) (h : sigma.Perm (List.range l.length)) :
    (sigma.filterMap fun i => l[i]?).Perm l := by
  have h1 := h.filterMap (fun i => l[i]?)
  rw [filterMap_range_get] at h1
  exact h1

theorem parts_perm {α} (f : α → Nat) : ∀ (bs : List Nat) (R : List α), bs.Nodup → (∀ e ∈ R, f e ∈ bs) →
    (bs.flatMap fun b => R.filter (fun e => f e == b)).Perm R := by
  intro bs
  induction bs with
  | nil =>
    intro R _ h
    cases R with
    | nil => exact List.Perm.refl _
    | cons a t => exact absurd (h a (List.mem_cons_self ..)) (by simp)
  | cons b bs ih =>
    intro R hnd hcov
    rw [List.nodup_cons] at hnd
    rw [List.flatMap_cons]
    have hrest : (bs.flatMap fun b' => R.filter (fun e => f e == b')) =
        (bs.flatMap fun b' => (R.filter (fun e => !(f e == b))).filter (fun e => f e == b')) := by
      apply List.flatMap_congr_mem
      intro b' hb'
      rw [List.filter_filter]
      apply List.filter_congr
      intro e _
      by_cases h : f e = b'
      · have : ¬ b' = b := by intro e'; rw [e'] at hb'; exact hnd.1 hb'
        simp [h, this]
      · simp [h]
    rw [hrest]
    have ihh := ih (R.filter (fun e => !(f e == b))) hnd.2 (fun e he => by
      rw [List.mem_filter] at he
      rcases List.mem_cons.mp (hcov e he.1) with h | h
      · simp [h] at he
      · exact h)
    exact (List.Perm.append_left _ ihh).trans (List.filter_append_perm _ R)

end Compress

namespace Compress
open Walk (Dir Conn Rel)
open Filter (has ExtSym2 removeCensoredExts removeCensoredExtsSharded extTarget)
variable {D : Type}

/-- the table of shard `b` before its hash map reorders it -/
def shardT0 (st prune : Bool) (R : Table D) (allR : List Seq) (f : Seq → Nat) (b : Nat) : Table D :=
  if prune then removeCensoredExtsSharded st (R.filter fun e => f e.key == b) (allR.filter fun k => f k == b)
  else R.filter fun e => f e.key == b

def AllPerm : List (Table D) → List (Table D) → Prop
  | [], [] => True
  | A :: As, B :: Bs => A.Perm B ∧ AllPerm As Bs
  | _, _ => False

theorem allPerm_flatten : ∀ (As Bs : List (Table D)), AllPerm As Bs → As.flatten.Perm Bs.flatten := by
  intro As
  induction As with
  | nil => intro Bs h; match Bs, h with
    | [], _ => exact List.Perm.refl _
  | cons A As ih =>
    intro Bs h
    match Bs, h with
    | B :: Bs, ⟨h1, h2⟩ =>
      rw [List.flatten_cons, List.flatten_cons]
      exact List.Perm.append h1 (ih Bs h2)

theorem shardT0_keys (st prune : Bool) (R : Table D) (allR : List Seq) (f : Seq → Nat) (b : Nat) :
    (shardT0 st prune R allR f b).map (·.key) = (R.filter fun e => f e.key == b).map (·.key) := by
  unfold shardT0
  cases prune
  · rfl
  · simp only [removeCensoredExtsSharded, if_true, List.map_map, Function.comp_def]

/-- Pruning a part `V` of `R` against `all` keeps every extension of `R` whose target is a key of `R`, provided `all` holds
    no key of `R` outside `V`: each pruned entry lies between the entry of `R` pruned in full and that entry itself. -/
theorem prunedSharded_between (st : Bool) (R V : Table D) (all : List Seq) (hV : ∀ e ∈ V, e ∈ R)
    (hall : ∀ k ∈ R.map (·.key), k ∈ all → k ∈ V.map (·.key)) (eu : Entry D) (heu : eu ∈ removeCensoredExtsSharded st V all) :
    ∃ er ∈ R, eu.key = er.key ∧ eu.data = er.data ∧ eu.exts.val < 256 ∧ (∀ d c, has eu.exts d c → has er.exts d c) ∧
      (∀ d c, has er.exts d c → extTarget st er.key c d ∈ R.map (·.key) → has eu.exts d c) := by
  obtain ⟨i, hi⟩ := List.mem_iff_getElem?.mp heu
  obtain ⟨e0, h0, hk, hd, hx⟩ := (Filter.removeCensoredSharded_exact st V all).2 i eu hi
  obtain ⟨_, _, _, _, hbyte⟩ := Filter.keepMap_getElem? V _ i eu hi
  refine ⟨e0, hV e0 (List.mem_of_getElem? h0), hk, hd, ?_, fun d c h => ((hx d c).mp h).1, fun d c h ht => ?_⟩
  · rw [hbyte]; exact Filter.keepBits_lt _ _
  · exact (hx d c).mpr ⟨h, fun hm => hm.1 (hall _ ht hm.2)⟩

theorem shard_sandwich {K : Nat} {st : Bool} (R : Table D) (wfR : WF R K st) (allR : List Seq) (f : Seq → Nat) (bs : List Nat)
    (hnd : bs.Nodup) (hcov : ∀ e ∈ R, f e.key ∈ bs) (prune : Bool) (Ts : List (Table D))
    (hp : AllPerm Ts (bs.map (shardT0 st prune R allR f))) : Sandwich st Ts.flatten R := by
  have hfl := allPerm_flatten _ _ hp
  constructor
  · refine (hfl.map (·.key)).trans ?_
    simp only [List.map_flatten, List.map_map, Function.comp_def, shardT0_keys]
    rw [← List.flatMap_def, ← List.map_flatMap]
    exact (parts_perm (fun (e : Entry D) => f e.key) bs R hnd hcov).map (·.key)
  · intro eu heu
    obtain ⟨T, hT, heT⟩ := List.mem_flatten.mp (hfl.mem_iff.mp heu)
    obtain ⟨b, _, rfl⟩ := List.mem_map.mp hT
    unfold shardT0 at heT
    cases prune with
    | false =>
      have heR := (List.mem_filter.mp heT).1
      obtain ⟨i, hi⟩ := List.mem_iff_getElem?.mp heR
      exact ⟨eu, heR, rfl, rfl, wfR.ext8 i eu hi, fun _ _ h => h, fun _ _ h _ => h⟩
    | true =>
      refine prunedSharded_between st R _ _ (fun e he => (List.mem_filter.mp he).1) (fun k hk hm => ?_) eu heT
      -- a key of `R` listed for bucket `b` is in the part of `R` of bucket `b`
      obtain ⟨et, het, hkt⟩ := List.mem_map.mp hk
      exact List.mem_map.mpr ⟨et, List.mem_filter.mpr ⟨het, by rw [hkt]; exact (List.mem_filter.mp hm).2⟩, hkt⟩

end Compress
