import Dbg.Lemmas.BlockWalk
import Dbg.Lemmas.KmerRc
/-! Refinement of `Lmer<[u64; n]>` to plain base vectors, for every word count `n`.  The words are read
    as `32·n` lanes (`Block64`); the last four lanes are the length byte. -/
namespace Lmer
open Block64 (blockSeq blockSeq_get k32_wf addr_k32 runBase_eq_get runBase_shift lane_coords lane_div lane_mod lanes_getElem lanes_getElem_div
  lanes_set lanes_setMut lanes_setSlice lanes_inj lanes_replicate_zero)
open Kmer (Cfg)

def lanes (l : T) : List Nat := l.storage.flatMap blockSeq

theorem lanes_length (l : T) : (lanes l).length = 32 * l.n := Block64.lanes_length _

theorem getLsbD_FF (k : Nat) : (0xFF#64 : BitVec 64).getLsbD k = decide (k < 8) := by
  rw [BitVec.getLsbD_ofNat, show (255 : Nat) = 2 ^ 8 - 1 from rfl, Nat.testBit_two_pow_sub_one]
  by_cases h : k < 8
  · rw [decide_eq_true h, decide_eq_true (show k < 64 by omega)]; rfl
  · rw [decide_eq_false h, Bool.and_false]

theorem get_and_lane (x m : Block) (j : Nat) (t : Bool) (h0 : m.getLsbD (62 - 2 * j) = t) (h1 : m.getLsbD (62 - 2 * j + 1) = t) :
    Kmer.get Block64.k32 (x &&& m) j = if t then Kmer.get Block64.k32 x j else 0 := by
  rw [Kmer.get_bits k32_wf, Kmer.get_bits k32_wf, addr_k32, BitVec.getLsbD_and, BitVec.getLsbD_and, h0, h1]
  cases t <;> simp

theorem get_and_FF (x : Block) (j : Nat) (hj : j < 32) :
    Kmer.get Block64.k32 (x &&& 0xFF#64) j = if 28 ≤ j then Kmer.get Block64.k32 x j else 0 := by
  rw [get_and_lane x _ j (decide (28 ≤ j)) (by rw [getLsbD_FF]; exact decide_eq_decide.mpr (by omega))
    (by rw [getLsbD_FF]; exact decide_eq_decide.mpr (by omega))]
  by_cases h : 28 ≤ j <;> simp [h]

theorem get_maskFF (v : Block) (i : Nat) (hi : i < 28) : Kmer.get Block64.k32 (v &&& ~~~(0xFF#64)) i = Kmer.get Block64.k32 v i := by
  have bit : ∀ k, 8 ≤ k → k < 64 → (~~~(0xFF#64 : BitVec 64)).getLsbD k = true := by
    intro k h8 h64
    rw [BitVec.getLsbD_not, getLsbD_FF, decide_eq_true h64, decide_eq_false (by omega)]; rfl
  rw [get_and_lane v _ i true (bit _ (by omega) (by omega)) (bit _ (by omega) (by omega))]; rfl

theorem byte_digits (x : Nat) : x % 256 = 64 * (x / 64 % 4) + 16 * (x / 16 % 4) + 4 * (x / 4 % 4) + x % 4 := by
  rw [show (256 : Nat) = 4 * (4 * (4 * 4)) from rfl, Nat.mod_mul, Nat.mod_mul, Nat.mod_mul, Nat.div_div_eq_div_mul, Nat.div_div_eq_div_mul]
  show x % 4 + 4 * (x / 4 % 4 + 4 * (x / 16 % 4 + 4 * (x / 64 % 4))) = _
  generalize x % 4 = a, x / 4 % 4 = b, x / 16 % 4 = c, x / 64 % 4 = d
  omega

theorem lenByte_lanes (w : Block) :
    (w &&& 0xff#64).toNat = 64 * Kmer.get Block64.k32 w 28 + 16 * Kmer.get Block64.k32 w 29 + 4 * Kmer.get Block64.k32 w 30 + Kmer.get Block64.k32 w 31 := by
  have e : ∀ j, Kmer.get Block64.k32 w j = w.toNat / 2 ^ (62 - 2 * j) % 4 := fun j => by
    rw [Kmer.get_arith k32_wf, addr_k32]
  rw [e 28, e 29, e 30, e 31, BitVec.toNat_and]
  show w.toNat &&& (2 ^ 8 - 1) = 64 * (w.toNat / 64 % 4) + 16 * (w.toNat / 16 % 4) + 4 * (w.toNat / 4 % 4) + w.toNat / 1 % 4
  rw [Nat.and_two_pow_sub_one_eq_mod, Nat.div_one]
  exact byte_digits _

def lenOfLanes (L : List Nat) (n : Nat) : Nat :=
  64 * L.getD (32 * n - 4) 0 + 16 * L.getD (32 * n - 3) 0 + 4 * L.getD (32 * n - 2) 0 + L.getD (32 * n - 1) 0

def lenN (l : T) : Nat := lenOfLanes (lanes l) l.n

theorem lanes_last (l : T) (j : Nat) (hj : j < 32) (w : Block) (hw : l.storage[l.n - 1]? = some w) :
    (lanes l)[32 * (l.n - 1) + j]? = some (Kmer.get Block64.k32 w j) := by
  unfold lanes; rw [lanes_getElem _ _ j hj, hw]; rfl

theorem lenN_eq (l : T) (hn : 1 ≤ l.n) (w : Block) (hw : l.storage[l.n - 1]? = some w) : lenN l = (w &&& 0xff#64).toNat := by
  have h : ∀ j, j < 32 → ((lanes l)[32 * (l.n - 1) + j]?).getD 0 = Kmer.get Block64.k32 w j := fun j hj => by
    rw [lanes_last l j hj w hw]; rfl
  rw [lenByte_lanes, ← h 28 (by decide), ← h 29 (by decide), ← h 30 (by decide), ← h 31 (by decide)]
  unfold lenN lenOfLanes
  simp only [List.getD_eq_getElem?_getD]
  -- lanes `32n-4 .. 32n-1` are lanes 28..31 of word `n-1`
  obtain ⟨m, hm⟩ : ∃ m, l.n = m + 1 := ⟨l.n - 1, (Nat.sub_add_cancel hn).symm⟩
  rw [hm]; rfl

theorem last_word (l : T) (hn : 1 ≤ l.n) : ∃ w, l.storage[l.n - 1]? = some w :=
  ⟨_, List.getElem?_eq_getElem (show l.n - 1 < l.storage.length by unfold T.n at hn ⊢; omega)⟩

theorem len_lanes (l : T) (hn : 1 ≤ l.n) : len l = some (lenN l) := by
  obtain ⟨w, hw⟩ := last_word l hn
  unfold len; rw [hw, lenN_eq l hn w hw]; rfl

theorem lenN_lt (l : T) (hn : 1 ≤ l.n) : lenN l < 256 := by
  obtain ⟨w, hw⟩ := last_word l hn
  rw [lenN_eq l hn w hw, BitVec.toNat_and]
  exact Nat.lt_succ_of_le Nat.and_le_right

def lenDigits (L : Nat) : List Nat := (blockSeq (BitVec.ofNat 64 L)).drop 28

theorem lanes_tail (l : T) (hn : 1 ≤ l.n) : (lanes l).drop (32 * l.n - 4) = lenDigits (lenN l) := by
  obtain ⟨w, hw⟩ := last_word l hn
  have hL : BitVec.ofNat 64 (lenN l) = w &&& 0xff#64 := by rw [lenN_eq l hn w hw, BitVec.ofNat_toNat, BitVec.setWidth_eq]
  obtain ⟨m, hm⟩ : ∃ m, l.n = m + 1 := ⟨l.n - 1, (Nat.sub_add_cancel hn).symm⟩
  apply List.ext_getElem?
  intro k
  unfold lenDigits
  rw [List.getElem?_drop, List.getElem?_drop, hL]
  by_cases hk : k < 4
  · have hk32 : 28 + k < 32 := by omega
    have := lanes_last l (28 + k) hk32 w hw
    rw [hm] at this ⊢
    rw [show 32 * (m + 1) - 4 + k = 32 * (m + 1 - 1) + (28 + k) by omega, this, blockSeq_get _ _ hk32, get_and_FF _ _ hk32,
      if_pos (Nat.le_add_right 28 k)]
  · rw [List.getElem?_eq_none (by rw [lanes_length]; omega), List.getElem?_eq_none (by rw [Block64.blockSeq_length]; omega)]

def toSeq (l : T) : List Nat := (lanes l).take (lenN l)

structure Inv (l : T) : Prop where
  n_pos : 1 ≤ l.n
  fits : lenN l + 4 ≤ 32 * l.n
  pad : ∀ q, lenN l ≤ q → q + 4 < 32 * l.n → (lanes l)[q]? = some 0

theorem toSeq_length (l : T) (h : Inv l) : (toSeq l).length = lenN l := by
  unfold toSeq; rw [List.length_take, lanes_length]; have := h.fits; omega

theorem lanes_eq_pad (l : T) (h : Inv l) :
    lanes l = toSeq l ++ List.replicate (32 * l.n - 4 - lenN l) 0 ++ lenDigits (lenN l) := by
  have hle : lenN l ≤ 32 * l.n - 4 := Nat.le_sub_of_add_le h.fits
  have hbody := List.eq_take_append_zeros ((lanes l).take (32 * l.n - 4)) (lenN l) (32 * l.n - 4 - lenN l)
    (by rw [List.length_take, lanes_length, Nat.min_eq_left (Nat.sub_le _ _), Nat.add_sub_cancel' hle])
    (fun i h1 h2 => by
      rw [Nat.add_sub_cancel' hle] at h2
      rw [List.getElem?_take_of_lt h2]; exact h.pad i h1 (Nat.add_lt_of_lt_sub h2))
  rw [List.take_take, Nat.min_eq_left hle] at hbody
  unfold toSeq
  rw [← lanes_tail l h.n_pos, ← hbody, List.take_append_drop]

theorem toSeq_lt4 (l : T) : ∀ b ∈ toSeq l, b < 4 := by
  intro b hb
  obtain ⟨i, hi, e⟩ := List.getElem_of_mem (List.mem_of_mem_take hb)
  exact Block64.lanes_lt4 l.storage i b (by rw [← e]; exact List.getElem?_eq_getElem hi)

theorem len_spec (l : T) (h : Inv l) : len l = some (toSeq l).length := by
  rw [toSeq_length l h]; exact len_lanes l h.n_pos

theorem get_eq_lane (l : T) (pos : Nat) : get l pos = (lanes l)[pos]? := (lanes_getElem_div _ _).symm

theorem get_spec (l : T) (h : Inv l) (pos : Nat) (hp : pos < lenN l) : get l pos = (toSeq l)[pos]? := by
  rw [get_eq_lane]; exact (List.getElem?_take_of_lt hp).symm

theorem inv_of_lanes (l l' : T) (h : Inv l) (hn : l'.n = l.n) (hl : ∀ q, lenN l ≤ q → (lanes l')[q]? = (lanes l)[q]?) :
    lenN l' = lenN l ∧ Inv l' := by
  have hf := h.fits
  -- the stored length is read from the last four lanes, which are beyond the string
  have e : lenN l' = lenN l := by
    have hl4 : ∀ k, k ≤ 4 → (lanes l')[32 * l.n - k]? = (lanes l)[32 * l.n - k]? := fun k hk => hl _ (by omega)
    unfold lenN lenOfLanes
    simp only [List.getD_eq_getElem?_getD, hn, hl4 4 (Nat.le_refl 4), hl4 3 (by decide), hl4 2 (by decide), hl4 1 (by decide)]
  refine ⟨e, ⟨hn ▸ h.n_pos, by rw [e, hn]; exact hf, fun q hq1 hq2 => ?_⟩⟩
  rw [e] at hq1; rw [hn] at hq2
  rw [hl q hq1]; exact h.pad q hq1 hq2

theorem setMut_lanes (l : T) (pos val : Nat) (hp : pos < 32 * l.n) (hv : val < 4) :
    ∃ l', setMut l pos val = some l' ∧ l'.n = l.n ∧ lanes l' = (lanes l).set pos val := by
  have hb : pos / 32 < l.storage.length := Nat.div_lt_of_lt_mul hp
  unfold setMut
  rw [List.getElem?_eq_getElem hb]
  refine ⟨_, rfl, List.length_set, ?_⟩
  have := lanes_setMut l.storage (pos / 32) (pos % 32) val hb (Nat.mod_lt _ (by decide)) hv
  rwa [Nat.div_add_mod] at this

theorem setMut_spec (l : T) (h : Inv l) (pos val : Nat) (hp : pos < lenN l) (hv : val < 4) :
    ∃ l', setMut l pos val = some l' ∧ Inv l' ∧ l'.n = l.n ∧ lenN l' = lenN l ∧ toSeq l' = (toSeq l).set pos val := by
  have hf := h.fits
  obtain ⟨l', e, hn, hl⟩ := setMut_lanes l pos val (by omega) hv
  obtain ⟨el, inv⟩ := inv_of_lanes l l' h hn (fun q hq => by rw [hl, List.getElem?_set_ne (by omega)])
  exact ⟨l', e, inv, hn, el, by unfold toSeq; rw [el, hl, List.take_set]⟩

/-- first word of `set_slice_mut` is the packed write of `Kmer32` -/
theorem firstWord_eq (w0 value : Block) (bp nB : Nat) (ff : Bool) (hff : ff = true → bp + nB ≤ 28) :
    (let bottom0 : Block := Kmer.bottomMask k32 (32 - (bp + nB))
     let mask : Block := Kmer.topMask k32 bp ||| (if ff then bottom0 ||| 0xFF#64 else bottom0)
     (w0 &&& mask) ||| ((value >>> (bp * 2)) &&& ~~~mask)) = Kmer.setSliceMut Block64.k32 w0 bp (min nB (32 - bp)) value := by
  -- a bottom mask of at least four lanes already covers the length byte
  have hb : ∀ m, 4 ≤ m → m ≤ 32 → (Kmer.bottomMask k32 m : Block) ||| 0xFF#64 = Kmer.bottomMask k32 m := by
    intro m h4 h32
    apply BitVec.eq_of_getLsbD_eq
    intro i hi
    rw [BitVec.getLsbD_or, Kmer.bottomMask_bits (c := k32) m i (by show 2 * m ≤ 64; omega) hi, getLsbD_FF]
    by_cases h8 : i < 8
    · rw [decide_eq_true (show i < 2 * m by omega)]; rfl
    · rw [decide_eq_false h8, Bool.or_false]
  have hmask : (if ff then (Kmer.bottomMask k32 (32 - (bp + nB)) : Block) ||| 0xFF#64 else Kmer.bottomMask k32 (32 - (bp + nB))) =
      Kmer.bottomMask k32 (32 - (bp + nB)) := by
    cases ff with
    | false => rfl
    | true => exact hb _ (by have := hff rfl; omega) (by omega)
  simp only [hmask]
  rw [Kmer.setSliceMut_eq]
  have e1 : Block64.k32.K - (bp + min nB (32 - bp)) = 32 - (bp + nB) := by show 32 - _ = _; omega
  simp only [e1, Nat.mul_comm bp 2]
  rfl

/-- second word of `set_slice_mut` -/
theorem secondWord_eq (w1 v : Block) (nb1 : Nat) (h32 : nb1 ≤ 32) :
    (let bm : Block := Kmer.bottomMask k32 (32 - nb1)
     (w1 &&& bm) ||| (v &&& ~~~bm)) = Kmer.setSliceMut Block64.k32 w1 0 nb1 v := by
  have := firstWord_eq w1 v 0 nb1 false (fun h => by cases h)
  have e : (Kmer.topMask k32 0 : BitVec 64) = 0#64 := rfl
  simp only [Nat.zero_add, Nat.zero_mul, BitVec.ushiftRight_zero, Bool.false_eq_true, if_false, e, BitVec.zero_or, Nat.sub_zero] at this
  rw [this, Nat.min_eq_left h32]

/-- a run of `r + n1` bases that fills word `b0` from lane `bp` on (`r` lanes) and continues with `n1` lanes of
    the next word, written as two one-word runs, the second of `value` shifted up by `r` lanes -/
theorem lanes_setSlice_cross (S : List Block) (b0 bp r n1 : Nat) (value : Block) (hr : bp + r = 32) (hr1 : 1 ≤ r)
    (hn1 : 1 ≤ n1) (hrn : r + n1 ≤ 32) (hb0 : b0 < S.length) (S1 : List Block)
    (hS1 : S1 = S.set b0 (Kmer.setSliceMut Block64.k32 S[b0] bp r value)) (hb1 : b0 + 1 < S1.length) (q : Nat) :
    ((S1.set (b0 + 1) (Kmer.setSliceMut Block64.k32 S1[b0 + 1] 0 n1 (value <<< (r * 2)))).flatMap blockSeq)[q]? =
      if 32 * b0 + bp ≤ q ∧ q < 32 * b0 + bp + (r + n1) then some (KSpec.runBase value (q - (32 * b0 + bp)))
      else (S.flatMap blockSeq)[q]? := by
  rw [lanes_setSlice S1 (b0 + 1) 0 n1 _ hb1 hn1 (Nat.le_trans (Nat.le_add_left _ _) (Nat.zero_add n1 ▸ hrn)) q]
  subst hS1
  rw [lanes_setSlice S b0 bp r value hb0 hr1 (Nat.le_of_eq hr) q, show 32 * (b0 + 1) + 0 = 32 * b0 + bp + r by omega]
  -- with `P` the first lane of the run: lanes `P .. P+r` from the first write, `P+r .. P+r+n1` from the second
  generalize 32 * b0 + bp = P
  clear hb1 hb0
  by_cases h1 : P + r ≤ q ∧ q < P + r + n1
  · obtain ⟨j, rfl⟩ : ∃ j, q = P + r + j := ⟨q - (P + r), (Nat.add_sub_cancel' h1.1).symm⟩
    rw [if_pos h1, if_pos (by omega), Nat.add_sub_cancel_left, Nat.mul_comm r 2, runBase_shift value r j (by omega), ← runBase_eq_get,
      Nat.add_assoc, Nat.add_sub_cancel_left]
  · rw [if_neg h1]
    by_cases h2 : P ≤ q ∧ q < P + r
    · rw [if_pos h2, if_pos (by omega)]
    · rw [if_neg h2, if_neg (by omega)]

theorem setSliceMut_lanes (l : T) (pos nB : Nat) (value : Block) (hn1 : 1 ≤ nB) (hn32 : nB ≤ 32)
    (hp : pos + nB + 4 ≤ 32 * l.n) :
    ∃ l', setSliceMut l pos nB value = some l' ∧ l'.n = l.n ∧
      ∀ q, (lanes l')[q]? = if pos ≤ q ∧ q < pos + nB then some (KSpec.runBase value (q - pos)) else (lanes l)[q]? := by
  -- `pos` is lane `bp` of word `b0`, with `r` lanes left in that word
  obtain ⟨b0, bp, hbp, rfl⟩ := lane_coords pos
  obtain ⟨r, hr⟩ : ∃ r, bp + r = 32 := ⟨32 - bp, Nat.add_sub_cancel' (Nat.le_of_lt hbp)⟩
  have hdiv := lane_div b0 bp hbp
  have hmod := lane_mod b0 bp hbp
  have er : 32 - bp = r := by rw [← hr, Nat.add_sub_cancel_left]
  -- both words exist, and a run in the last word stops before the length byte
  obtain ⟨hb0, hb1, hlast⟩ : b0 < l.storage.length ∧ (r < nB → b0 + 1 < l.storage.length) ∧ (b0 = l.n - 1 → bp + nB ≤ 28) := by
    unfold T.n at hp ⊢; omega
  have hff : (b0 == l.n - 1) = true → bp + nB ≤ 28 := fun h => hlast (by simpa using h)
  clear hp hlast
  unfold setSliceMut
  simp only [hdiv, hmod, er, List.getElem?_eq_getElem hb0]
  have hfirst := firstWord_eq l.storage[b0] value bp nB (b0 == l.n - 1) hff
  simp only [er] at hfirst
  rw [hfirst]
  by_cases hov : nB > r
  · -- the run continues into the next word
    obtain ⟨n1, rfl⟩ : ∃ n1, nB = r + n1 := ⟨nB - r, (Nat.add_sub_cancel' (Nat.le_of_lt hov)).symm⟩
    rw [if_pos hov, Nat.add_sub_cancel_left, Nat.min_eq_right (Nat.le_add_right r n1)]
    have hb1 : b0 + 1 < (l.storage.set b0 (Kmer.setSliceMut Block64.k32 l.storage[b0] bp r value)).length := by
      rw [List.length_set]; exact hb1 hov
    simp only [List.getElem?_eq_getElem hb1]
    have hsecond := secondWord_eq (l.storage.set b0 (Kmer.setSliceMut Block64.k32 l.storage[b0] bp r value))[b0 + 1]
      (value <<< (r * 2)) n1 (Nat.le_trans (Nat.le_add_left n1 r) hn32)
    simp only at hsecond
    rw [hsecond]
    exact ⟨_, rfl, by simp [T.n], lanes_setSlice_cross l.storage b0 bp r n1 value hr
      (Nat.lt_of_add_lt_add_left (show bp + 0 < bp + r by rw [Nat.add_zero, hr]; exact hbp))
      (Nat.lt_of_add_lt_add_left (show r + 0 < r + n1 from hov)) hn32 hb0 _ rfl hb1⟩
  · rw [if_neg hov, Nat.min_eq_left (Nat.le_of_not_gt hov)]
    exact ⟨_, rfl, by simp [T.n], fun q => lanes_setSlice _ b0 bp nB value hb0 hn1 (hr ▸ Nat.add_le_add_left (Nat.le_of_not_gt hov) bp) q⟩

theorem setSlice_getElem? (s : List Nat) (pos n : Nat) (value : Block) (q : Nat) :
    (KSpec.setSlice s pos n value)[q]? = s[q]?.map fun b => if pos ≤ q ∧ q < pos + n then KSpec.runBase value (q - pos) else b := by
  unfold KSpec.setSlice
  rw [List.getElem?_map, List.getElem?_zipIdx]
  cases s[q]? with
  | none => rfl
  | some b => simp only [Option.map_some, Nat.zero_add]

theorem setSliceMut_spec (l : T) (h : Inv l) (pos nB : Nat) (value : Block) (hn1 : 1 ≤ nB) (hn32 : nB ≤ 32) (hp : pos + nB ≤ lenN l) :
    ∃ l', setSliceMut l pos nB value = some l' ∧ Inv l' ∧ l'.n = l.n ∧ lenN l' = lenN l ∧
      toSeq l' = KSpec.setSlice (toSeq l) pos nB value := by
  have hf := h.fits
  obtain ⟨l', e, hn, hl⟩ := setSliceMut_lanes l pos nB value hn1 hn32 (by omega)
  obtain ⟨el, inv⟩ := inv_of_lanes l l' h hn (fun q hq => by rw [hl q, if_neg (by omega)])
  refine ⟨l', e, inv, hn, el, List.ext_of_le (lenN l) (Nat.le_of_eq ((toSeq_length l' inv).trans el))
    (by simp [KSpec.setSlice, toSeq_length l h]) fun q hq => ?_⟩
  rw [setSlice_getElem?]
  unfold toSeq
  rw [el, List.getElem?_take_of_lt hq, List.getElem?_take_of_lt hq, hl q,
    List.getElem?_eq_getElem (show q < (lanes l).length by rw [lanes_length]; omega)]
  split <;> rfl

theorem new_lanes (n L : Nat) (hn : 1 ≤ n) (hL : L < 256) :
    ∃ l, new n L = some l ∧ l.n = n ∧ lenN l = L ∧ ∀ q, q + 4 < 32 * n → (lanes l)[q]? = some 0 := by
  obtain ⟨m, rfl⟩ : ∃ m, n = m + 1 := ⟨n - 1, (Nat.sub_add_cancel hn).symm⟩
  unfold new
  rw [if_neg (Nat.succ_ne_zero m)]
  have hm : m < (List.replicate (m + 1) 0#64).length := by rw [List.length_replicate]; exact Nat.lt_succ_self m
  have hlen : ((List.replicate (m + 1) 0#64).set (m + 1 - 1) (BitVec.ofNat 64 (L % 2 ^ 64) &&& 0xff#64)).length = m + 1 := by
    rw [List.length_set, List.length_replicate]
  refine ⟨_, rfl, hlen, ?_, fun q hq => ?_⟩
  · rw [lenN_eq _ (by rw [T.n, hlen]; exact hn) _ (by rw [T.n, hlen]; exact List.getElem?_set_self hm),
      BitVec.and_assoc, BitVec.and_self, BitVec.toNat_and, BitVec.toNat_ofNat]
    show L % 2 ^ 64 % 2 ^ 64 &&& (2 ^ 8 - 1) = L
    rw [Nat.and_two_pow_sub_one_eq_mod, Nat.mod_mod, Nat.mod_eq_of_lt (Nat.lt_trans hL (by decide)), Nat.mod_eq_of_lt hL]
  · obtain ⟨b, j, hj, rfl⟩ := lane_coords q
    show ((List.set _ m _).flatMap blockSeq)[_]? = _
    rw [lanes_set _ _ _ hm b j hj, lanes_replicate_zero]
    by_cases hb : b = m
    · rw [if_pos hb, get_and_FF _ j hj, if_neg (by omega)]
    · rw [if_neg hb, List.getElem?_replicate, if_pos (by omega)]

/-- **`new(len)`**: a string of `len` A's (len within `max_len` and the length byte) -/
theorem new_spec (n L : Nat) (hn : 1 ≤ n) (hfit : L + 4 ≤ 32 * n) (hL : L < 256) :
    ∃ l, new n L = some l ∧ Inv l ∧ l.n = n ∧ lenN l = L ∧ toSeq l = List.replicate L 0 := by
  obtain ⟨l, e, hln, hlenN, hz⟩ := new_lanes n L hn hL
  refine ⟨l, e, ⟨hln ▸ hn, by rw [hlenN, hln]; exact hfit, fun q _ hq2 => hz q (hln ▸ hq2)⟩, hln, hlenN,
    List.ext_of_le L (hlenN ▸ List.length_take_le _ _) (Nat.le_of_eq List.length_replicate) fun q hq => ?_⟩
  unfold toSeq
  rw [hlenN, List.getElem?_replicate, List.getElem?_take_of_lt hq, hz q (by omega), if_pos hq]

theorem foldl_set_zipIdx (rest : List Nat) (k : Nat) (acc : List Nat) (h : acc.length = k + rest.length) :
    (rest.zipIdx k).foldl (fun a (bi : Nat × Nat) => a.set bi.2 bi.1) acc = acc.take k ++ rest := by
  induction rest generalizing k acc with
  | nil => rw [List.append_nil, ← h.trans (Nat.add_zero k), List.take_length]; rfl
  | cons b rest ih =>
    rw [List.length_cons] at h
    rw [List.zipIdx_cons, List.foldl_cons, ih (k + 1) (acc.set k b) (by rw [List.length_set]; omega), List.take_set,
      List.take_add_one, List.getElem?_eq_getElem (by omega), List.set_append_right _ _ (by rw [List.length_take]; omega)]
    simp [Nat.min_eq_left (show k ≤ acc.length by omega)]

theorem fromSlice_spec (n : Nat) (seq : List Nat) (hn : 1 ≤ n) (hfit : seq.length + 4 ≤ 32 * n) (hL : seq.length < 256)
    (hv : ∀ b ∈ seq, b < 4) :
    ∃ l, fromSlice n seq = some l ∧ Inv l ∧ l.n = n ∧ toSeq l = seq := by
  obtain ⟨l0, e0, i0, n0, len0, s0⟩ := new_spec n seq.length hn hfit hL
  unfold fromSlice
  rw [e0]
  simp only
  -- fold invariant: the value stands for the list obtained by the same writes
  have key : ∀ (rest : List Nat) (k : Nat) (l : T), Inv l → l.n = n → lenN l = seq.length → k + rest.length ≤ seq.length →
      (∀ b ∈ rest, b < 4) →
      ∃ l', (rest.zipIdx k).foldl (fun acc (bi : Nat × Nat) => acc.bind (setMut · bi.2 bi.1)) (some l) = some l' ∧ Inv l' ∧ l'.n = n ∧
        toSeq l' = (rest.zipIdx k).foldl (fun a (bi : Nat × Nat) => a.set bi.2 bi.1) (toSeq l) := by
    intro rest
    induction rest with
    | nil => intro k l hi hn' _ _ _; exact ⟨l, rfl, hi, hn', rfl⟩
    | cons b rest ih =>
      intro k l hi hn' hl hk hb
      rw [List.length_cons] at hk
      obtain ⟨l1, e1, i1, n1, len1, s1⟩ := setMut_spec l hi k b (by omega) (hb b List.mem_cons_self)
      obtain ⟨l2, e2, i2, n2, s2⟩ := ih (k + 1) l1 i1 (n1.trans hn') (len1.trans hl) (by omega)
        (fun x hx => hb x (List.mem_cons_of_mem _ hx))
      exact ⟨l2, by rw [List.zipIdx_cons, List.foldl_cons, Option.bind_some, e1]; exact e2, i2, n2,
        by rw [List.zipIdx_cons, List.foldl_cons, s2, s1]⟩
  obtain ⟨l, e, i, hn', s⟩ := key seq 0 l0 i0 n0 len0 (by omega) hv
  refine ⟨l, e, i, hn', ?_⟩
  rw [s, s0, foldl_set_zipIdx seq 0 _ (by rw [List.length_replicate]; omega)]; rfl

theorem toBytes_spec (l : T) (h : Inv l) : toBytes l = some (toSeq l) := by
  have hl := toSeq_length l h
  unfold toBytes
  rw [len_lanes l h.n_pos, ← hl]
  exact List.mapM_range_eq _ _ (fun i hi => get_spec l h i (by omega))

theorem getKmer_spec (c : Cfg) (hc : c.WF) (l : T) (h : Inv l) (pos : Nat) (hp : pos + c.K ≤ lenN l) :
    ∃ s, getKmer c l pos = some s ∧ Kmer.Inv c s ∧ Kmer.toSeq c s = ((toSeq l).drop pos).take c.K := by
  have hf := h.fits
  unfold getKmer
  rw [len_lanes l h.n_pos]
  simp only
  rw [if_neg (by omega)]
  obtain ⟨s, e, i, t⟩ := DnaStr.walk_spec c hc l.storage pos (by unfold T.n at hf; omega)
  refine ⟨s, e, i, ?_⟩
  rw [t]
  unfold toSeq lanes
  rw [List.drop_take, List.take_take, Nat.min_eq_left (by omega)]

theorem getKmer_guard (c : Cfg) (l : T) (h : Inv l) (pos : Nat) (hp : ¬ pos + c.K ≤ lenN l) : getKmer c l pos = none := by
  unfold getKmer
  rw [len_lanes l h.n_pos]
  simp only
  rw [if_pos (by omega)]

/-- **canonical representation**: same word count and same bases ⇒ same words (so derived `==`/`Hash`
    are those of the string) -/
theorem repr_inj (a b : T) (ha : Inv a) (hb : Inv b) (hn : a.n = b.n) (h : toSeq a = toSeq b) : a = b := by
  have hl : lenN a = lenN b := by rw [← toSeq_length a ha, ← toSeq_length b hb, h]
  have hlanes : lanes a = lanes b := by rw [lanes_eq_pad a ha, lanes_eq_pad b hb, h, hn, hl]
  obtain ⟨sa⟩ := a
  obtain ⟨sb⟩ := b
  exact congrArg T.mk (lanes_inj sa sb hlanes)

/-- lane `j` of the reverse-complemented word, top-aligned to `nb` bases, mirrors lane `i = nb - 1 - j` -/
theorem rcWord_lane (v : Block) (nb i j : Nat) (hnb : nb ≤ 32) (hij : i + j + 1 = nb) :
    KSpec.runBase ((~~~(Kmer.revTwos v)) <<< (64 - nb * 2)) j = 3 - Kmer.get Block64.k32 v i := by
  have hrc : (~~~(Kmer.revTwos v) : Block) = Kmer.rc Block64.k32 v := rfl
  obtain ⟨m, hm⟩ : ∃ m, m + nb = 32 := ⟨32 - nb, Nat.sub_add_cancel hnb⟩
  rw [show 64 - nb * 2 = 2 * m by omega, hrc, runBase_shift _ m j (by omega), Kmer.get_rc k32_wf (by decide) v _ (show m + j < 32 by omega)]
  show 3 - Kmer.get Block64.k32 v (32 - 1 - (m + j)) = _
  rw [show 32 - 1 - (m + j) = i by omega]

/-- the run written for word `block` (its `nb` bases, with `rem'` bases after them) holds their reverse
    complement: lane `j` of the run is position `rem' + j` of the reversed string -/
theorem rcRun_lane (l : T) (h : Inv l) (block nb rem' j : Nat) (v0 : Block) (hv0 : l.storage[block]? = some v0) (hnb : nb ≤ 32)
    (hj : j < nb) (htot : 32 * block + nb + rem' = lenN l) :
    some (KSpec.runBase ((~~~(Kmer.revTwos (if block == l.n - 1 then v0 &&& ~~~(0xFF#64) else v0))) <<< (64 - nb * 2)) j) =
      (KSpec.rc (toSeq l))[rem' + j]? := by
  have hf := h.fits
  -- lane `j` of the run mirrors lane `i` of the word, which is base `32 * block + i` of the string
  obtain ⟨i, hij⟩ : ∃ i, i + j + 1 = nb := ⟨nb - 1 - j, by omega⟩
  obtain ⟨hi32, hil, hmirror, hlast⟩ : i < 32 ∧ 32 * block + i < lenN l ∧ 32 * block + i + (rem' + j) + 1 = lenN l ∧
      (block = l.n - 1 → i < 28) := by omega
  rw [KSpec.rc_getElem? (toSeq l) (32 * block + i) (rem' + j) (by rw [toSeq_length l h]; exact hmirror)]
  unfold toSeq lanes
  rw [List.getElem?_take_of_lt hil, rcWord_lane _ nb i j hnb hij, lanes_getElem _ block i hi32, hv0]
  show _ = some (3 - Kmer.get Block64.k32 v0 i)
  -- masking of the length byte does not reach these lanes
  split
  · rename_i hl
    rw [get_maskFF v0 _ (hlast (by simpa using hl))]
  · rfl

/-- the length of a round of `rc()` with `rem` bases to go: a whole word unless it is the last round -/
theorem rc_round (rem : Nat) (h : 0 < rem) :
    1 ≤ min 32 rem ∧ min 32 rem ≤ 32 ∧ min 32 rem ≤ rem ∧ (min 32 rem < rem → min 32 rem = 32) := by omega

/-- loop invariant of `rc()`: with `rem` bases still to go, the lanes `rem ..` of the accumulator already
    hold the reverse complement -/
theorem rcLoop_spec (l : T) (h : Inv l) (block pos rem : Nat) (acc : T)
    (hpos : pos + rem = lenN l) (hblk : 0 < rem → pos = 32 * block)
    (hi : Inv acc) (hn : acc.n = l.n) (hlen : lenN acc = lenN l)
    (hq : ∀ q, rem ≤ q → q < lenN l → (toSeq acc)[q]? = (KSpec.rc (toSeq l))[q]?) :
    ∃ r, rcLoop l (lenN l) block pos acc = some r ∧ Inv r ∧ r.n = l.n ∧ lenN r = lenN l ∧
      ∀ q, q < lenN l → (toSeq r)[q]? = (KSpec.rc (toSeq l))[q]? := by
  fun_induction rcLoop l (lenN l) block pos acc generalizing rem with
  | case1 block pos acc hlt hnone =>
    have := hblk (by omega)
    have hf := h.fits
    rw [List.getElem?_eq_getElem (show block < l.storage.length by unfold T.n at hf; omega)] at hnone; cases hnone
  | case2 block pos acc hlt nb v0 hv0 v vRc hnone =>
    have hnb := rc_round (lenN l - pos) (Nat.sub_pos_of_lt hlt)
    obtain ⟨l', e, _⟩ := setSliceMut_spec acc hi (lenN l - pos - nb) nb vRc hnb.1 hnb.2.1
      (by rw [hlen, Nat.sub_add_cancel hnb.2.2.1]; exact Nat.sub_le _ _)
    rw [e] at hnone; cases hnone
  | case3 block pos acc hlt nb v0 hv0 v vRc acc' hacc ih =>
    have hrem : 0 < rem := by omega
    have hp32 := hblk hrem
    obtain ⟨hnb1, hnb32, hnbt, hnbfull⟩ : 1 ≤ nb ∧ nb ≤ 32 ∧ nb ≤ rem ∧ (nb < rem → nb = 32) := by
      simp only [nb, ← hpos, Nat.add_sub_cancel_left]; exact rc_round rem hrem
    -- the run goes to lanes `rem' .. rem' + nb`
    obtain ⟨rem', rfl⟩ : ∃ rem', rem = nb + rem' := ⟨rem - nb, (Nat.add_sub_cancel' hnbt).symm⟩
    rw [← hpos, Nat.add_sub_cancel_left, Nat.add_sub_cancel_left] at hacc
    obtain ⟨l', e, i', n', len', s'⟩ := setSliceMut_spec acc hi rem' nb vRc hnb1 hnb32
      (by rw [hlen, ← hpos, Nat.add_comm rem' nb]; exact Nat.le_add_left _ _)
    rw [e] at hacc; cases hacc
    apply ih rem' ((Nat.add_assoc ..).trans hpos)
      (fun hlt' => by rw [hnbfull (Nat.lt_add_of_pos_right hlt'), hp32, Nat.mul_succ]) i' (n'.trans hn) (len'.trans hlen)
    intro q hq1 hq2
    have hql : q < (toSeq acc).length := by rw [toSeq_length acc hi, hlen]; exact hq2
    rw [s', setSlice_getElem?, List.getElem?_eq_getElem hql, Option.map_some]
    by_cases hin : rem' ≤ q ∧ q < rem' + nb
    · obtain ⟨j, rfl⟩ : ∃ j, q = rem' + j := ⟨q - rem', (Nat.add_sub_cancel' hin.1).symm⟩
      rw [if_pos hin, Nat.add_sub_cancel_left]
      exact rcRun_lane l h block nb rem' j v0 hv0 hnb32 (Nat.lt_of_add_lt_add_left hin.2) (by rw [← hp32, Nat.add_assoc]; exact hpos)
    · rw [if_neg hin, ← List.getElem?_eq_getElem hql]
      exact hq q (Nat.add_comm rem' nb ▸ Nat.le_of_not_lt (fun hlt' => hin ⟨hq1, hlt'⟩)) hq2
  | case4 block pos acc hnlt =>
    obtain rfl : rem = 0 := by omega
    exact ⟨acc, rfl, hi, hn, hlen, fun q hq' => hq q (Nat.zero_le _) hq'⟩

theorem rc_spec (l : T) (h : Inv l) : ∃ r, rc l = some r ∧ Inv r ∧ r.n = l.n ∧ toSeq r = KSpec.rc (toSeq l) := by
  unfold rc
  rw [len_lanes l h.n_pos]
  simp only
  obtain ⟨b, eb, ib, nb, lb, sb⟩ := new_spec l.n (lenN l) h.n_pos h.fits (lenN_lt l h.n_pos)
  rw [eb]
  simp only
  obtain ⟨r, e, i, n, len, s⟩ := rcLoop_spec l h 0 0 (lenN l) b (Nat.zero_add _) (fun _ => rfl) ib nb lb (fun q h1 h2 => absurd h2 (Nat.not_lt.mpr h1))
  exact ⟨r, e, i, n, List.ext_of_le (lenN l) (Nat.le_of_eq ((toSeq_length r i).trans len))
    (Nat.le_of_eq ((KSpec.rc_length _).trans (toSeq_length l h))) s⟩

end Lmer
