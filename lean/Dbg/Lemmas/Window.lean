import Dbg.Spec.C08
import Dbg.Lemmas.SeqLemmas
import Dbg.Lemmas.ListWindow
/-! Windows of a read (what `get_kmer`, `from_slice` and `iter_kmer_exts` cut out) as `take`/`drop` of a list, and the
    windows cut out by pieces that tile a read. -/
namespace Filter
open Compress (Seq Base rc extendLeft extendRight)

def win (s : Seq) (K i : Nat) : Seq := (s.drop i).take K

theorem win_length (s : Seq) (K i : Nat) (h : i + K ≤ s.length) : (win s K i).length = K := by
  unfold win; rw [List.length_take, List.length_drop]; omega

theorem win_getElem? (s : Seq) (K i j : Nat) (hj : j < K) : (win s K i)[j]? = s[i + j]? := by
  unfold win; rw [List.getElem?_take_of_lt hj, List.getElem?_drop]

theorem win_win (s : Seq) (len a k j : Nat) (h : j + k ≤ len) : win (win s len a) k j = win s k (a + j) := by
  unfold win
  rw [List.drop_take, List.take_take, List.drop_drop, Nat.min_eq_left (Nat.le_sub_of_add_le' h)]

theorem win_succ (s : Seq) (K i : Nat) (hK : 1 ≤ K) (b : Base) (h : s[i + K]? = some b) :
    win s K (i + 1) = extendRight (win s K i) b := by
  rw [win, List.window_succ s hK i, h]; rfl

theorem win_pred (s : Seq) (K i : Nat) (hK : 1 ≤ K) (hi : 0 < i) (hlen : i + K ≤ s.length) (b : Base) (h : s[i - 1]? = some b) :
    win s K (i - 1) = extendLeft (win s K i) b := by
  obtain ⟨k, rfl⟩ : ∃ k, K = k + 1 := ⟨K - 1, (Nat.sub_add_cancel hK).symm⟩
  obtain ⟨j, rfl⟩ : ∃ j, i = j + 1 := ⟨i - 1, (Nat.sub_add_cancel hi).symm⟩
  rw [Nat.add_sub_cancel] at h ⊢
  obtain ⟨hlt, hb⟩ := List.getElem?_eq_some_iff.mp h
  unfold win extendLeft
  have hk : k < (s.drop (j + 1)).length := by rw [List.length_drop]; omega
  rw [List.drop_eq_getElem_cons hlt, List.take_succ_cons, hb, List.take_succ_eq_append_getElem hk, List.dropLast_concat]

theorem win_rc_of_add (s : Seq) (K i j : Nat) (h : i + j + K = s.length) : win (rc s) K j = rc (win s K i) :=
  List.map_reverse_window Compress.comp s K i j h

end Filter

namespace Msp
open Compress (Seq Base)
open Filter (win)

theorem window_eq (seq : Array Base) (p q : Nat) : window seq p q = win seq.toList p q := by
  simp [window, win, Array.toList_extract, List.extract_eq_take_drop]

theorem window_length (seq : Array Base) (p q : Nat) (h : q + p ≤ seq.size) : (window seq p q).length = p := by
  rw [window_eq]; exact Filter.win_length _ p q h

theorem window_window (seq : Array Base) (len start k j : Nat) (h : j + k ≤ len) :
    ((window seq len start).drop j).take k = window seq k (start + j) := by
  rw [window_eq, window_eq]; exact Filter.win_win _ len start k j h

theorem getElem?_eq_toList (seq : Array Base) (i : Nat) : seq[i]? = seq.toList[i]? := by simp

theorem kmersOfSeq_window (seq : Array Base) (k len a : Nat) (hkl : k ≤ len) (hle : a + len ≤ seq.size) :
    kmersOfSeq k (window seq len a) = (List.range' a (len - k + 1)).map (window seq k) := by
  unfold kmersOfSeq
  rw [window_length seq len a hle, if_neg (Nat.not_lt.mpr hkl), List.range'_eq_map_range, List.map_map]
  apply List.map_congr_left
  intro j hj
  have := List.mem_range.mp hj
  exact window_window seq len a k j (by omega)

/-- **tiling**: if what `g` reads off a piece cut out at `a` is `f` at the k-mer starts `a, a+1, …` inside the piece, then
    `g` over pieces that tile the read from `a` on is `f` at every k-mer start from `a` to the last one, `a + c` -/
theorem pieces_tile {β : Type} (seq : Array Base) (k : Nat) (hk : 1 ≤ k) (f : Nat → β) (g : Piece → List β)
    (hg : ∀ (pc : Piece) (a : Nat), k ≤ pc.seq.length → a + pc.seq.length ≤ seq.size → pc.seq = window seq pc.seq.length a →
      pc.exts = flankByte seq a pc.seq.length → g pc = (List.range' a (pc.seq.length - k + 1)).map f)
    (a : Nat) (pcs : List Piece) :
    PiecesFrom seq k a pcs → ∃ c, pcs.flatMap g = (List.range' a (c + 1)).map f ∧ a + c + k = seq.size := by
  fun_induction PiecesFrom seq k a pcs with
  | case1 => exact fun h => h.elim
  | case2 a pc =>
    intro ⟨h1, h2, h3, h4⟩
    refine ⟨pc.seq.length - k, ?_, by rw [Nat.add_assoc, Nat.sub_add_cancel h1]; exact h2⟩
    rw [List.flatMap_cons, List.flatMap_nil, List.append_nil, hg pc a h1 (Nat.le_of_eq h2) h3 h4]
  | case3 a pc pc' rest ih =>
    intro ⟨h1, h2, h3, h4, h5⟩
    obtain ⟨c', ihe, ihc⟩ := ih h5
    -- the next piece starts where the k-mer starts of this one end
    have e1 : a + pc.seq.length - (k - 1) = a + (pc.seq.length - k + 1) := by omega
    rw [e1] at ihe ihc
    refine ⟨pc.seq.length - k + 1 + c', ?_, by rw [← Nat.add_assoc]; exact ihc⟩
    rw [List.flatMap_cons, hg pc a h1 h2 h3 h4, ihe, ← List.map_append, List.range'_append_1,
      Nat.add_assoc (pc.seq.length - k + 1) c' 1]

end Msp
