/-! Facts about plain lists that the packed containers (bases as `Nat`) and the graph layer (bases as `Fin 4`) share:
    the windows `(l.drop i).take K` of a list, the mapped reverse `(l.map f).reverse`, which is what both notions of
    reverse complement are, and `mapM` into `Option`. -/
namespace List
variable {α β : Type _}

theorem flatMap_congr_mem {l : List α} {f g : α → List β} (h : ∀ a ∈ l, f a = g a) : l.flatMap f = l.flatMap g := by
  rw [flatMap_def, flatMap_def]; congr 1; exact map_congr_left h

theorem tail_take (n : Nat) (l : List α) : (l.take (n + 1)).tail = l.tail.take n := by cases l <;> simp

theorem window_succ (l : List α) {K : Nat} (hK : 1 ≤ K) (i : Nat) :
    (l.drop (i + 1)).take K = ((l.drop i).take K).tail ++ l[i + K]?.toList := by
  obtain ⟨k, rfl⟩ : ∃ k, K = k + 1 := ⟨K - 1, (Nat.sub_add_cancel hK).symm⟩
  rw [tail_take, tail_drop, take_add_one, getElem?_drop, Nat.add_right_comm i 1 k, Nat.add_assoc i k 1]

/-- the windows of `l ++ [v]` are those of `l` and the last `K` elements -/
theorem windows_snoc (l : List α) (v : α) {K : Nat} (hK : 1 ≤ K) (hl : K ≤ l.length) :
    (range (l.length + 1 - K + 1)).map (fun i => ((l ++ [v]).drop i).take K) =
      (range (l.length - K + 1)).map (fun i => (l.drop i).take K) ++ [(l ++ [v]).drop (l.length + 1 - K)] := by
  obtain ⟨m, hm⟩ := Nat.exists_eq_add_of_le hl
  rw [hm, Nat.add_assoc, Nat.add_sub_cancel_left, Nat.add_sub_cancel_left, range_succ, map_append, map_singleton]
  congr 1
  · apply map_congr_left
    intro i hi
    have := mem_range.mp hi
    rw [drop_append_of_le_length (by omega), take_append_of_le_length (by rw [length_drop]; omega)]
  · exact congrArg (· :: []) (take_of_length_le (by rw [length_drop, length_append, length_singleton]; omega))

theorem getElem?_map_reverse (f : α → β) (l : List α) (p q : Nat) (h : p + q + 1 = l.length) :
    (l.map f).reverse[q]? = l[p]?.map f := by
  rw [getElem?_reverse (by rw [length_map]; omega), length_map, getElem?_map]
  congr 2; omega

theorem map_reverse_window (f : α → β) (l : List α) (K i j : Nat) (h : i + j + K = l.length) :
    ((l.map f).reverse.drop j).take K = (((l.drop i).take K).map f).reverse := by
  rw [map_take, map_drop, reverse_take, reverse_drop, length_drop, length_map, drop_take,
    show l.length - i - K = j by omega, show l.length - i - j = K by omega]

theorem map_reverse_windows (f : α → β) (l : List α) (K : Nat) (h : K ≤ l.length) :
    (range (l.length - K + 1)).map (fun i => ((l.map f).reverse.drop i).take K) =
      ((range (l.length - K + 1)).map fun i => (((l.drop i).take K).map f).reverse).reverse := by
  apply ext_getElem
  · rw [length_reverse, length_map, length_map]
  · intro i h1 _
    rw [length_map, length_range] at h1
    rw [getElem_reverse, getElem_map, getElem_map, getElem_range, getElem_range, length_map, length_range]
    exact map_reverse_window f l K _ i (by omega)

theorem mapM_eq_some_iff (f : α → Option β) : ∀ (l : List α) (r : List β), l.mapM f = some r ↔ l.map f = r.map some
  | [], r => by cases r <;> simp
  | a :: t, [] => by rw [mapM_cons]; cases f a <;> cases t.mapM f <;> simp
  | a :: t, c :: cs => by
    rw [mapM_cons, map_cons, map_cons, cons.injEq, ← mapM_eq_some_iff f t cs]
    cases f a <;> cases t.mapM f <;> simp

theorem mapM_cons_eq_some {f : α → Option β} {a : α} {l : List α} {r : List β} (h : (a :: l).mapM f = some r) :
    ∃ b bs, f a = some b ∧ l.mapM f = some bs ∧ r = b :: bs := by
  cases r with
  | nil => cases (mapM_eq_some_iff f _ _).mp h
  | cons b bs =>
    obtain ⟨h1, h2⟩ := cons.inj ((mapM_eq_some_iff f _ _).mp h)
    exact ⟨b, bs, h1, (mapM_eq_some_iff f l bs).mpr h2, rfl⟩

theorem mem_of_mapM_eq_some {f : α → Option β} {l : List α} {r : List β} (h : l.mapM f = some r) {b : β} (hb : b ∈ r) :
    ∃ a ∈ l, f a = some b := by
  have := mem_map_of_mem (f := some) hb
  rw [← (mapM_eq_some_iff f l r).mp h] at this
  exact mem_map.mp this

theorem length_of_mapM_eq_some {f : α → Option β} {l : List α} {r : List β} (h : l.mapM f = some r) : r.length = l.length := by
  have := congrArg length ((mapM_eq_some_iff f l r).mp h)
  rwa [length_map, length_map, eq_comm] at this

theorem exists_mapM_eq_some (f : α → Option β) (l : List α) (h : ∀ a ∈ l, ∃ b, f a = some b) : ∃ r, l.mapM f = some r := by
  induction l with
  | nil => exact ⟨[], rfl⟩
  | cons a l ih =>
    obtain ⟨b, hb⟩ := h a (mem_cons_self ..)
    obtain ⟨bs, hbs⟩ := ih fun x hx => h x (mem_cons_of_mem _ hx)
    exact ⟨b :: bs, by rw [mapM_cons, hb, hbs]; rfl⟩

theorem mapM_range_eq (f : Nat → Option α) (s : List α) (hf : ∀ i, i < s.length → f i = s[i]?) :
    (range s.length).mapM f = some s := by
  refine (mapM_eq_some_iff f _ s).mpr (ext_getElem? fun i => ?_)
  rw [getElem?_map, getElem?_map]
  by_cases hi : i < s.length
  · rw [getElem?_range hi, Option.map_some, hf i hi, getElem?_eq_getElem hi]; rfl
  · rw [getElem?_eq_none (by simpa using hi), getElem?_eq_none (by omega)]; rfl

end List
