import Dbg.Lemmas.BlockWalk
import Dbg.Lemmas.KmerRc
import Dbg.Lemmas.SliceAlgebra
/-! Refinement of `DnaStringSlice` to plain base vectors. -/
namespace DnaStr.Slice
open Kmer (Cfg St)

def Valid (d : T) (s : Slice) : Prop := s.start + s.length ≤ d.len

def seq (d : T) (s : Slice) : List Nat :=
  let w := ((toSeq d).drop s.start).take s.length
  if s.isRc then KSpec.rc w else w

theorem complement_lt4 (b : Nat) (h : b < 4) : complement b = KSpec.comp b := by
  have : b = 0 ∨ b = 1 ∨ b = 2 ∨ b = 3 := by omega
  rcases this with rfl | rfl | rfl | rfl <;> decide

theorem seq_lt4 (d : T) (s : Slice) : ∀ b ∈ seq d s, b < 4 := by
  intro b hb
  unfold seq at hb
  have hw : ∀ x ∈ ((toSeq d).drop s.start).take s.length, x < 4 :=
    fun x hx => toSeq_lt4 d x (List.mem_of_mem_drop (List.mem_of_mem_take hx))
  split at hb
  · unfold KSpec.rc at hb
    rw [List.mem_reverse, List.mem_map] at hb
    obtain ⟨x, _, rfl⟩ := hb
    unfold KSpec.comp; omega
  · exact hw b hb

section
variable (d : T) (h : Inv d) (s : Slice) (hv : Valid d s)
include h hv

theorem window_length :
    (((toSeq d).drop s.start).take s.length).length = s.length := by
  rw [List.length_take, List.length_drop, toSeq_length d h]; unfold Valid at hv; omega

theorem seq_length : (seq d s).length = s.length := by
  unfold seq; split
  · rw [KSpec.rc_length]; exact window_length d h s hv
  · exact window_length d h s hv

end

theorem get_spec (d : T) (h : Inv d) (s : Slice) (hv : Valid d s) (i : Nat) (hi : i < s.length) :
    get d s i = (seq d s)[i]? := by
  unfold Valid at hv
  unfold get seq
  cases hrc : s.isRc
  · show DnaStr.get d (i + s.start) = (((toSeq d).drop s.start).take s.length)[i]?
    rw [DnaStr.get_spec d h _ (by omega), List.getElem?_take_of_lt hi, List.getElem?_drop, Nat.add_comm]
  · -- position `i` of the reversed window mirrors its position `p`
    obtain ⟨p, hp⟩ : ∃ p, p + i + 1 = s.length := ⟨s.length - 1 - i, by omega⟩
    show (if s.start + s.length < 1 + i then none else (DnaStr.get d (s.start + s.length - 1 - i)).map complement) = _
    rw [if_neg (by omega), show s.start + s.length - 1 - i = s.start + p by omega, DnaStr.get_spec d h _ (by omega)]
    show _ = (KSpec.rc (((toSeq d).drop s.start).take s.length))[i]?
    rw [KSpec.rc_getElem? _ p i (by rw [window_length d h s hv]; exact hp), List.getElem?_take_of_lt (by omega), List.getElem?_drop]
    cases hx : (toSeq d)[s.start + p]? with
    | none => rfl
    | some x => exact congrArg some (complement_lt4 x (toSeq_lt4 d x (List.mem_of_getElem? hx)))

section
variable (d : T) (h : Inv d) (s : Slice) (hv : Valid d s)
include h hv

theorem bytes_spec : bytes d s = some (seq d s) := by
  have hl := seq_length d h s hv
  unfold bytes
  rw [← hl]
  exact List.mapM_range_eq _ _ (fun i hi => get_spec d h s hv i (by omega))
theorem ascii_spec : ascii d s = some ((seq d s).map bitsToAscii) := by
  unfold ascii; rw [bytes_spec d h s hv]; rfl
theorem display_spec : display d s = some ((seq d s).map bitsToBase) := by
  unfold display toDnaString; rw [bytes_spec d h s hv]; rfl
theorem debug_spec (hl : s.length < 256) :
    debug d s = some ((seq d s).map bitsToBase) := by
  rw [debug_eq_display d s hl, display_spec d h s hv]

theorem toOwned_spec :
    ∃ d', toOwned d s = some d' ∧ Inv d' ∧ toSeq d' = seq d s := by
  unfold toOwned
  rw [bytes_spec d h s hv]
  obtain ⟨d', e, i, t, _⟩ := pushAll_spec (seq d s) DnaStr.new inv_new (seq_lt4 d s)
  exact ⟨d', e, i, by simpa [toSeq_new] using t⟩

/-- **`slice(a, b)`** of a view (any orientation, any nesting depth) -/
theorem slice_spec (a b : Nat) (hab : a ≤ b) (hb : b ≤ s.length) :
    ∃ s', s.slice a b = some s' ∧ Valid d s' ∧ seq d s' = ((seq d s).drop a).take (b - a) := by
  obtain ⟨s', e⟩ := Option.isSome_iff_exists.mp ((slice_isSome s a b).mpr ⟨hab, hb⟩)
  have hs' := (slice_eq_some s s' a b e).2
  have hl : s'.length = b - a := by rw [hs']
  have hv' : Valid d s' := by
    unfold Valid at hv ⊢
    rw [hs']
    show (if s.isRc = true then s.start + s.length - b else s.start + a) + (b - a) ≤ d.len
    split <;> omega
  refine ⟨s', e, hv', List.ext_of_le (b - a) (Nat.le_of_eq ((seq_length d h s' hv').trans hl)) (List.length_take_le _ _)
    fun i hi => ?_⟩
  rw [← get_spec d h s' hv' i (hl ▸ hi), get_slice d s s' a b i e hi, get_spec d h s hv (a + i) (by omega),
    List.getElem?_take_of_lt hi, List.getElem?_drop]

end

theorem rc_spec (d : T) (h : Inv d) (s : Slice) (hv : Valid d s) : Valid d s.rc ∧ seq d s.rc = KSpec.rc (seq d s) := by
  refine ⟨hv, ?_⟩
  unfold seq rc
  cases hrc : s.isRc
  · simp
  · simp only [Bool.not_true, Bool.false_eq_true, if_false, if_true]
    rw [KSpec.rc_rc _ (fun x hx => toSeq_lt4 d x (List.mem_of_mem_drop (List.mem_of_mem_take hx)))]

theorem window_sub (t : List Nat) (start len p K : Nat) (h : p + K ≤ len) :
    (t.drop (start + p)).take K = (((t.drop start).take len).drop p).take K := by
  rw [List.drop_take, List.take_take, List.drop_drop, Nat.min_eq_left (Nat.le_sub_of_add_le' h)]

theorem getKmer_spec (c : Cfg) (hc : c.WF) (hw : c.w ∈ [8, 16, 32, 64, 128]) (d : T) (h : Inv d) (s : Slice) (hv : Valid d s)
    (pos : Nat) (hp : pos + c.K ≤ s.length) :
    ∃ k, getKmer c d s pos = some k ∧ Kmer.Inv c k ∧ Kmer.toSeq c k = ((seq d s).drop pos).take c.K := by
  unfold Valid at hv
  unfold getKmer seq
  rw [if_neg (fun hn => hn hp)]
  cases hrc : s.isRc
  · obtain ⟨k, e, i, t⟩ := DnaStr.getKmer_spec c hc d h (s.start + pos) (by omega)
    exact ⟨k, e, i, by rw [t]; exact window_sub _ _ _ _ _ hp⟩
  · -- the window of the view, seen from the other strand: `p` bases precede it there
    obtain ⟨p, hpl⟩ : ∃ p, p + c.K + pos = s.length := ⟨s.length - c.K - pos, by omega⟩
    obtain ⟨k, e, i, t⟩ := DnaStr.getKmer_spec c hc d h (s.start + p) (by omega)
    refine ⟨Kmer.rc c k, ?_, Kmer.inv_rc hc hw k, ?_⟩
    · show (DnaStr.getKmer c d (s.start + s.length - c.K - pos)).map (Kmer.rc c) = _
      rw [show s.start + s.length - c.K - pos = s.start + p by omega, e]; rfl
    · have hwl := window_length d h s hv
      have := KSpec.rc_window (((toSeq d).drop s.start).take s.length) c.K p (by rw [hwl]; omega)
      rw [hwl, show s.length - c.K - p = pos by omega] at this
      rw [Kmer.toSeq_rc hc hw k, t, window_sub (toSeq d) s.start s.length p c.K (by omega), this]; rfl

theorem getKmer_guard (c : Cfg) (d : T) (s : Slice) (pos : Nat) (hp : ¬ pos + c.K ≤ s.length) : getKmer c d s pos = none := by
  unfold getKmer; rw [if_pos (by simpa using hp)]

end DnaStr.Slice

namespace DnaStr.Slice
open Kmer (Cfg St)

theorem kmer32_wf : kmer32.WF := ⟨by decide, by decide, fun _ => by decide⟩

section
variable (d1 : T) (h1 : Inv d1) (s1 : Slice) (v1 : Valid d1 s1) (d2 : T) (h2 : Inv d2) (s2 : Slice) (v2 : Valid d2 s2)
  (hl : s1.length = s2.length)
include h1 v1 h2 v2 hl

theorem hamBlocks_fold (m : Nat) (hm : m * 32 ≤ s1.length) :
    (List.range m).foldl (hamBlockStep d1 s1 d2 s2) (some 0) =
      some (KSpec.hamming ((seq d1 s1).take (m * 32)) ((seq d2 s2).take (m * 32))) := by
  induction m with
  | zero => rfl
  | succ m ih =>
    rw [Nat.succ_mul] at hm
    obtain ⟨k1, e1, _, t1⟩ := getKmer_spec kmer32 kmer32_wf (by decide) d1 h1 s1 v1 (m * 32) hm
    obtain ⟨k2, e2, _, t2⟩ := getKmer_spec kmer32 kmer32_wf (by decide) d2 h2 s2 v2 (m * 32) (hl ▸ hm)
    rw [List.range_succ, List.foldl_append, ih (Nat.le_of_add_right_le hm), Nat.succ_mul,
      List.take_add, List.take_add, DnaStr.hamming_append _ _ _ _ (by
        rw [List.length_take, List.length_take, seq_length d1 h1 s1 v1, seq_length d2 h2 s2 v2, hl]), ← t1, ← t2]
    simp only [List.foldl_cons, List.foldl_nil, hamBlockStep, e1, e2]
    exact congrArg (fun x => some (_ + x)) (DnaStr.countDiff_spec k1 k2)

theorem hamTail_fold (a n : Nat) (hn : a + n ≤ s1.length) :
    (List.range' a n).foldl (hamTailStep d1 s1 d2 s2) (some (KSpec.hamming ((seq d1 s1).take a) ((seq d2 s2).take a))) =
      some (KSpec.hamming ((seq d1 s1).take (a + n)) ((seq d2 s2).take (a + n))) := by
  induction n with
  | zero => rfl
  | succ n ih =>
    have hlt : a + n < s1.length := hn
    have p1 : a + n < (seq d1 s1).length := by rw [seq_length d1 h1 s1 v1]; exact hlt
    have p2 : a + n < (seq d2 s2).length := by rw [seq_length d2 h2 s2 v2, ← hl]; exact hlt
    have g1 := get_spec d1 h1 s1 v1 (a + n) hlt
    have g2 := get_spec d2 h2 s2 v2 (a + n) (hl ▸ hlt)
    rw [List.getElem?_eq_getElem p1] at g1
    rw [List.getElem?_eq_getElem p2] at g2
    rw [List.range'_concat, List.foldl_append, ih (Nat.le_of_lt hlt), ← Nat.add_assoc, List.take_add_one, List.take_add_one,
      List.getElem?_eq_getElem p1, List.getElem?_eq_getElem p2,
      DnaStr.hamming_append _ _ _ _ (by rw [List.length_take, List.length_take, Nat.min_eq_left (Nat.le_of_lt p1), Nat.min_eq_left (Nat.le_of_lt p2)])]
    simp only [Nat.one_mul, List.foldl_cons, List.foldl_nil, hamTailStep, g1, g2, KSpec.hamming, Option.toList_some, List.zip_cons_cons,
      List.zip_nil_right, List.countP_cons, List.countP_nil, Nat.zero_add]
    split <;> rfl

/-- **`hamming_dist`** (as repaired, D1) counts the differing positions of two equal-length views, for
    every length and offset and either orientation -/
theorem hammingDist_spec :
    hammingDist d1 s1 d2 s2 = some (KSpec.hamming (seq d1 s1) (seq d2 s2)) := by
  have l1 := seq_length d1 h1 s1 v1
  have l2 := seq_length d2 h2 s2 v2
  unfold hammingDist
  rw [if_neg (fun hne => hne hl)]
  simp only
  rw [Nat.shiftRight_eq_div_pow, Nat.shiftLeft_eq]
  have hw : s1.length / 2 ^ 5 * 2 ^ 5 ≤ s1.length := Nat.div_mul_le_self _ _
  rw [hamBlocks_fold d1 h1 s1 v1 d2 h2 s2 v2 hl _ hw, hamTail_fold d1 h1 s1 v1 d2 h2 s2 v2 hl _ _ (by rw [Nat.add_sub_cancel' hw]; exact Nat.le_refl _),
    Nat.add_sub_cancel' hw]
  conv => lhs; rw [← l1]
  rw [List.take_length, l1, hl, ← l2, List.take_length]

end

theorem hammingDist_guard (d1 : T) (s1 : Slice) (d2 : T) (s2 : Slice) (hl : s1.length ≠ s2.length) :
    hammingDist d1 s1 d2 s2 = none := by unfold hammingDist; rw [if_pos hl]

end DnaStr.Slice
