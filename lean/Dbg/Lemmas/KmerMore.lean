import Dbg.Lemmas.KmerOrder
import Dbg.Lemmas.KmerExtend
import Dbg.Lemmas.ListWindow
/-! `from_u64`, `to_string`, `from_ascii` and `kmers_from_bytes` of the packed k-mer model refine their list specifications. -/
namespace Kmer
variable {c : Cfg}

theorem val_digits4 : ∀ (k r : Nat), r < 4 ^ k → Lex.val (KSpec.digits4 k r) = r := by
  intro k
  induction k with
  | zero => intro r h; simp at h; subst h; simp [KSpec.digits4, Lex.val]
  | succ k ih =>
    intro r h
    simp only [KSpec.digits4]
    rw [val_append_single, ih (r / 4) (by rw [Nat.pow_succ] at h; omega)]
    omega

theorem digits4_length : ∀ (k r : Nat), (KSpec.digits4 k r).length = k := by
  intro k; induction k with
  | zero => intro r; rfl
  | succ k ih => intro r; simp [KSpec.digits4, ih]

theorem digits4_lt : ∀ (k r : Nat), ∀ d ∈ KSpec.digits4 k r, d < 4 := by
  intro k; induction k with
  | zero => intro r d hd; simp [KSpec.digits4] at hd
  | succ k ih =>
    intro r d hd
    simp only [KSpec.digits4, List.mem_append, List.mem_singleton] at hd
    rcases hd with hd | rfl
    · exact ih _ d hd
    · omega

theorem fromU64_spec (hc : c.WF) (v : Nat) (hv : v < 4 ^ c.K) :
    ∃ s, fromU64 c v = some s ∧ toSeq c s = KSpec.digits4 c.K v ∧ Inv c s := by
  have hw : (4 : Nat) ^ c.K ≤ 2 ^ c.w := by
    rw [show (4 : Nat) = 2 ^ 2 by rfl, ← Nat.pow_mul]; exact Nat.pow_le_pow_right (by decide) hc.hw
  have hlt : v < 2 ^ c.w := by omega
  unfold fromU64
  simp only [hlt, if_true]
  have hinv : Inv c (BitVec.ofNat c.w v) := by
    intro i hi
    rw [BitVec.getLsbD_ofNat]
    have : v.testBit i = false := by
      apply Nat.testBit_lt_two_pow
      have : (4 : Nat) ^ c.K = 2 ^ (2 * c.K) := by rw [show (4 : Nat) = 2 ^ 2 by rfl, ← Nat.pow_mul]
      have : 2 ^ (2 * c.K) ≤ 2 ^ i := Nat.pow_le_pow_right (by decide) hi
      omega
    simp [this]
  refine ⟨_, rfl, ?_, hinv⟩
  apply Lex.val_inj _ _ (by simp [toSeq_length, digits4_length]) (toSeq_lt4 hc _) (digits4_lt _ _)
  rw [← toNat_eq_val hc _ hinv, val_digits4 c.K v hv, BitVec.toNat_ofNat, Nat.mod_eq_of_lt hlt]

theorem toStr_spec (hc : c.WF) (s : St c) : toStr c s = KSpec.toText (toSeq c s) := by
  unfold toStr KSpec.toText
  apply List.map_congr_left
  intro b hb
  have := toSeq_lt4 hc s b hb
  have : b = 0 ∨ b = 1 ∨ b = 2 ∨ b = 3 := by omega
  rcases this with rfl | rfl | rfl | rfl <;> rfl

/-- the k-mer built from the first K of `bs` by successive `set_mut` (shared by from_bytes / from_ascii / kmers_from_*) -/
def buildK (c : Cfg) (bs : List Nat) : St c :=
  ((bs.take c.K).zipIdx).foldl (fun s (bi : Nat × Nat) => setMut c s bi.2 bi.1) (empty c)

theorem fromBytes_eq_buildK (bs : List Nat) (h : c.K ≤ bs.length) : fromBytes c bs = some (buildK c bs) := by
  unfold fromBytes buildK; simp [show ¬ bs.length < c.K by omega]

theorem getD_lt (l : List Nat) (n i : Nat) (hn : 0 < n) (h : ∀ b ∈ l, b < n) : l.getD i 0 < n := by
  rw [List.getD_eq_getElem?_getD]
  cases hi : l[i]? with
  | none => exact hn
  | some b => exact h b (List.mem_of_getElem? hi)

theorem baseToBits_lt (ch : Nat) : baseToBits ch < 4 :=
  getD_lt Gen.baseToBits 4 ch (by decide) (by decide +kernel)

theorem fromAscii_eq (bs : List Nat) : fromAscii c bs = fromBytes c (bs.map baseToBits) := by
  unfold fromAscii fromBytes
  rw [List.length_map, ← List.map_take, List.zipIdx_map, List.foldl_map]
  rfl

/-- the step of the `kmers_from_bytes` loop -/
def kfbStep (c : Cfg) (acc : List (St c) × St c) (v : Nat) : List (St c) × St c :=
  let k' := extendRight c acc.2 v
  (k' :: acc.1, k')

theorem kmersFromBytes_eq (str : List Nat) (h : c.K ≤ str.length) :
    kmersFromBytes c str = ((str.drop c.K).foldl (kfbStep c) ([buildK c str], buildK c str)).1.reverse := by
  unfold kmersFromBytes buildK kfbStep
  simp [show ¬ str.length < c.K by omega]

theorem windows_append_single (K : Nat) (l : List Nat) (v : Nat) (hK : 1 ≤ K) (hl : K ≤ l.length) :
    KSpec.windows K (l ++ [v]) = KSpec.windows K l ++ [KSpec.extendRight (l.drop (l.length - K)) v] := by
  unfold KSpec.windows KSpec.extendRight
  rw [if_neg (by simp; omega), if_neg (by omega), List.length_append, List.length_singleton, List.windows_snoc l v hK hl,
    List.tail_drop, List.drop_append_of_le_length (by omega), show l.length + 1 - K = l.length - K + 1 by omega]

theorem kfb_windows (hc : c.WF) : ∀ (rest pre : List Nat) (cur : St c) (acc : List (St c)), c.K ≤ pre.length →
    toSeq c cur = pre.drop (pre.length - c.K) → acc.reverse.map (toSeq c) = KSpec.windows c.K pre → (∀ b ∈ rest, b < 4) →
    ((rest.foldl (kfbStep c) (acc, cur)).1.reverse).map (toSeq c) = KSpec.windows c.K (pre ++ rest) := by
  intro rest
  induction rest with
  | nil => intro pre cur acc _ _ hacc _; simpa using hacc
  | cons v t ih =>
    intro pre cur acc hl hcur hacc hb
    have hv : v < 4 := hb v (by simp)
    have hK := hc.hK
    have hcur' : toSeq c (extendRight c cur v) = KSpec.extendRight (pre.drop (pre.length - c.K)) v := by
      rw [toSeq_extendRight hc cur v hv, hcur]
    have := ih (pre ++ [v]) (extendRight c cur v) (extendRight c cur v :: acc) (by simp; omega)
      (by rw [hcur']; unfold KSpec.extendRight
          rw [List.tail_drop, List.length_append, List.length_singleton, List.drop_append_of_le_length (by omega),
            show pre.length - c.K + 1 = pre.length + 1 - c.K by omega])
      (by rw [List.reverse_cons, List.map_append, hacc, windows_append_single c.K pre v hc.hK hl, List.map_singleton, hcur'])
      (fun b hb' => hb b (by simp [hb']))
    simpa [kfbStep] using this
/-- `set_mut` of the bases of `l` at the positions `n, n + 1, …`: these positions read `l`, the others are untouched -/
theorem foldl_setMut (hc : c.WF) : ∀ (l : List Nat) (n : Nat) (s0 : St c), Inv c s0 → n + l.length ≤ c.K → (∀ b ∈ l, b < 4) →
    Inv c ((l.zipIdx n).foldl (fun s (bi : Nat × Nat) => setMut c s bi.2 bi.1) s0) ∧
    ∀ q, q < c.K → get c ((l.zipIdx n).foldl (fun s (bi : Nat × Nat) => setMut c s bi.2 bi.1) s0) q =
      if q < n then get c s0 q else l[q - n]?.getD (get c s0 q) := by
  intro l
  induction l with
  | nil => intro n s0 h0 _ _; exact ⟨h0, fun q _ => by simp⟩
  | cons a t ih =>
    intro n s0 h0 hn hb
    rw [List.length_cons] at hn
    have ha : a < 4 := hb a List.mem_cons_self
    obtain ⟨i1, i2⟩ := ih (n + 1) (setMut c s0 n a) (inv_setMut s0 n a (by omega) ha h0) (by omega)
      (fun b hb' => hb b (List.mem_cons_of_mem _ hb'))
    refine ⟨i1, fun q hq => ?_⟩
    rw [List.zipIdx_cons, List.foldl_cons, i2 q hq, get_setMut hc s0 n a q (by omega) hq ha]
    rcases Nat.lt_trichotomy q n with h | rfl | h
    · rw [if_pos (by omega), if_neg (by omega), if_pos h]
    · rw [if_pos (by omega), if_pos rfl, if_neg (Nat.lt_irrefl _), Nat.sub_self]; rfl
    · obtain ⟨j, rfl⟩ : ∃ j, q = n + 1 + j := ⟨q - (n + 1), by omega⟩
      rw [if_neg (by omega), if_neg (by omega), if_neg (by omega), Nat.add_sub_cancel_left,
        show n + 1 + j - n = j + 1 by omega, List.getElem?_cons_succ]

theorem buildK_spec (hc : c.WF) (bs : List Nat) (hl : c.K ≤ bs.length) (hb : ∀ b ∈ bs, b < 4) :
    toSeq c (buildK c bs) = bs.take c.K ∧ Inv c (buildK c bs) := by
  have hlen : (bs.take c.K).length = c.K := by rw [List.length_take]; omega
  obtain ⟨k1, k2⟩ := foldl_setMut hc (bs.take c.K) 0 (empty c) (inv_empty c) (by omega)
    (fun b hb' => hb b (List.mem_of_mem_take hb'))
  refine ⟨?_, k1⟩
  apply List.ext_getElem
  · rw [toSeq_length, hlen]
  · intro q h1 h2
    rw [toSeq_length] at h1
    simp only [toSeq, List.getElem_map, List.getElem_range]
    exact (k2 q h1).trans (by rw [if_neg (Nat.not_lt_zero _), Nat.sub_zero, List.getElem?_eq_getElem h2]; rfl)

theorem kmersFromBytes_spec (hc : c.WF) (str : List Nat) (hb : ∀ b ∈ str, b < 4) :
    (kmersFromBytes c str).map (toSeq c) = KSpec.windows c.K str := by
  by_cases hs : str.length < c.K
  · simp [kmersFromBytes, KSpec.windows, hs]
  · have hl : c.K ≤ str.length := by omega
    have h0 := (buildK_spec hc str hl hb).1
    have := kfb_windows hc (str.drop c.K) (str.take c.K) (buildK c str) [buildK c str] (by simp; omega)
      (by simp [h0, Nat.min_eq_left hl]) (by simp [KSpec.windows, h0, Nat.min_eq_left hl, List.take_take])
      (fun b hb' => hb b (List.mem_of_mem_drop hb'))
    rwa [List.take_append_drop, ← kmersFromBytes_eq str hl] at this

end Kmer
