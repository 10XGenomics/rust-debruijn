import Dbg.Lemmas.GraphProofs
/-! `max_path_beam`: every state of the beam search is a trail along reported edges; the loop ends within
    `nodes.length + 1` rounds; on graphs whose extensions resolve it returns a path. -/
namespace Graph
open Compress (Node)
open Walk (Dir)
variable {D : Type}

section
variable (g : G D) (score : D → Int) (beam : Nat)

theorem expandState_inv (s : BState) (l : List BState) (h : expandState g score s = some l) :
    ∃ cur edges, s.path.getLast? = some cur ∧ findEdges g cur.1 cur.2.flip = some edges ∧ l.length = edges.length ∧
      ∀ t ∈ l, ∃ e ∈ edges, (g.nodes[e.1]?).isSome ∧ t.path = s.path ++ [(e.1, e.2.1)] ∧
        (t.status = 0 → (s.path.any fun p => p.1 == e.1) = false ∧
          ∃ es, findEdges g e.1 e.2.1.flip = some es ∧ es ≠ []) := by
  unfold expandState at h
  cases hlast : s.path.getLast? with
  | none => rw [hlast] at h; cases h
  | some cur =>
    rw [hlast] at h
    simp only at h
    cases he : findEdges g cur.1 cur.2.flip with
    | none => rw [he] at h; cases h
    | some edges =>
      rw [he] at h
      simp only at h
      refine ⟨cur, edges, rfl, he, List.length_of_mapM_eq_some h, fun t ht => ?_⟩
      obtain ⟨e, hem, hte⟩ := List.mem_of_mapM_eq_some h ht
      refine ⟨e, hem, ?_⟩
      cases hn : g.nodes[e.1]? with
      | none => rw [hn] at hte; cases hte
      | some nn =>
        rw [hn] at hte
        simp only at hte
        by_cases hc : (s.path.any fun p => p.1 == e.1) = true
        · rw [if_pos hc] at hte
          simp only [Option.map_some, Option.some.injEq] at hte
          subst hte
          exact ⟨rfl, rfl, fun h0 => by cases h0⟩
        · rw [if_neg hc] at hte
          cases he2 : findEdges g e.1 e.2.1.flip with
          | none => rw [he2] at hte; cases hte
          | some es2 =>
            rw [he2] at hte
            simp only [Option.map_some, Option.some.injEq] at hte
            subst hte
            refine ⟨rfl, rfl, fun h0 => ⟨Bool.eq_false_iff.mpr hc, es2, rfl, ?_⟩⟩
            intro e0; rw [e0] at h0; cases h0

theorem beamRound_inv (states ns : List BState) (act : Bool)
    (h : beamRound g score beam states = some (ns, act)) :
    act = states.any (·.status == 0) ∧
    ∃ parts : List (List BState), parts.length = states.length ∧ ns = (parts.flatten.mergeSort fun a b => decide (b.score ≤ a.score)).take beam ∧
      ∀ part ∈ parts, ∃ s ∈ states, (s.status ≠ 0 ∧ part = [s]) ∨ (s.status = 0 ∧ expandState g score s = some part) := by
  unfold beamRound at h
  cases hm : states.mapM (fun s => if s.status == 0 then expandState g score s else some [s]) with
  | none => rw [hm] at h; cases h
  | some parts =>
    rw [hm] at h
    cases h
    refine ⟨rfl, parts, List.length_of_mapM_eq_some hm, rfl, fun part hp => ?_⟩
    obtain ⟨s, hs, hf⟩ := List.mem_of_mapM_eq_some hm hp
    refine ⟨s, hs, ?_⟩
    by_cases hst : (s.status == 0) = true
    · rw [if_pos hst] at hf
      exact Or.inr ⟨by simpa using hst, hf⟩
    · rw [if_neg hst] at hf
      exact Or.inl ⟨by simpa using hst, (Option.some.inj hf).symm⟩

theorem beamRound_mem (states ns : List BState) (act : Bool)
    (h : beamRound g score beam states = some (ns, act)) (t : BState) (ht : t ∈ ns) :
    ∃ s ∈ states, (s.status ≠ 0 ∧ t = s) ∨ (s.status = 0 ∧ ∃ l, expandState g score s = some l ∧ t ∈ l) := by
  obtain ⟨_, parts, _, rfl, hparts⟩ := beamRound_inv g score beam states ns act h
  obtain ⟨part, hp, htp⟩ := List.mem_flatten.mp ((List.mergeSort_perm _ _).mem_iff.mp (List.mem_of_mem_take ht))
  obtain ⟨s, hs, hcase⟩ := hparts part hp
  refine ⟨s, hs, ?_⟩
  rcases hcase with ⟨h0, rfl⟩ | ⟨h0, he⟩
  · exact Or.inl ⟨h0, List.mem_singleton.mp htp⟩
  · exact Or.inr ⟨h0, part, he, htp⟩

theorem beamLoop_inv (P : Nat → List BState → Prop)
    (hstep : ∀ a states ns act, P a states → beamRound g score beam states = some (ns, act) → P (a + 1) ns) :
    ∀ (fuel a : Nat) (states out : List BState), P a states → beamLoop g score beam fuel states = some out → ∃ a', P a' out := by
  intro fuel
  induction fuel with
  | zero => intro a states out _ h; cases h
  | succ fuel ih =>
    intro a states out hP h
    unfold beamLoop at h
    cases hr : beamRound g score beam states with
    | none => rw [hr] at h; cases h
    | some r =>
      obtain ⟨ns, act⟩ := r
      rw [hr] at h
      simp only at h
      have hns := hstep a states ns act hP hr
      by_cases ha : act = true
      · rw [if_pos ha] at h; exact ih (a + 1) ns out hns h
      · rw [if_neg ha] at h; cases h; exact ⟨_, hns⟩

/-- the start states of `max_path_beam`: the nodes without extensions on some side -/
def startStates : List BState :=
  g.nodes.zipIdx.filterMap fun (ni : Node D × Nat) =>
    let nl := ni.1.exts.numExtDir .L
    let nr := ni.1.exts.numExtDir .R
    if nl == 0 || nr == 0 then
      some ⟨[(ni.2, if nl > 0 then Dir.R else Dir.L)], score ni.1.data, if nl == 0 && nr == 0 then 1 else 0⟩
    else none

theorem beamInit_eq :
    beamInit g score =
      if (startStates g score).isEmpty then
        match g.nodes[0]? with
        | some n => [⟨[(0, .L)], score n.data, 0⟩]
        | none => []
      else startStates g score := rfl

theorem mem_startStates (s : BState) :
    s ∈ startStates g score ↔ ∃ i n, g.nodes[i]? = some n ∧ (n.exts.numExtDir .L = 0 ∨ n.exts.numExtDir .R = 0) ∧
      s = ⟨[(i, if n.exts.numExtDir .L > 0 then Dir.R else Dir.L)], score n.data,
        if n.exts.numExtDir .L == 0 && n.exts.numExtDir .R == 0 then 1 else 0⟩ := by
  unfold startStates
  rw [List.mem_filterMap]
  constructor
  · rintro ⟨ni, hni, hf⟩
    simp only [Bool.or_eq_true, beq_iff_eq, Option.ite_none_right_eq_some, Option.some.injEq] at hf
    exact ⟨ni.2, ni.1, List.mem_zipIdx_iff_getElem?.mp hni, hf.1, hf.2.symm⟩
  · rintro ⟨i, n, hn, hz, rfl⟩
    refine ⟨(n, i), List.mem_zipIdx_iff_getElem?.mpr hn, ?_⟩
    simp only [Bool.or_eq_true, beq_iff_eq, hz, if_true]

theorem beamInit_mem (s : BState) (hs : s ∈ beamInit g score) :
    ∃ i n d, g.nodes[i]? = some n ∧ s.path = [(i, d)] ∧ (s.status = 0 → 0 < n.exts.numExtDir d.flip) := by
  rw [beamInit_eq] at hs
  by_cases hemp : (startStates g score).isEmpty = true
  · rw [if_pos hemp] at hs
    cases hn : g.nodes[0]? with
    | none => rw [hn] at hs; cases hs
    | some n =>
      rw [hn] at hs
      rw [List.mem_singleton.mp hs]
      refine ⟨0, n, .L, hn, rfl, fun _ => ?_⟩
      -- node 0 is not a start state: it has extensions on both sides
      have hz : ¬ (n.exts.numExtDir .L = 0 ∨ n.exts.numExtDir .R = 0) := fun hz => by
        have := (mem_startStates g score _).mpr ⟨0, n, hn, hz, rfl⟩
        rw [List.isEmpty_iff.mp hemp] at this
        cases this
      show 0 < n.exts.numExtDir .R
      omega
  · rw [if_neg hemp] at hs
    obtain ⟨i, n, hn, hz, rfl⟩ := (mem_startStates g score s).mp hs
    refine ⟨i, n, _, hn, rfl, fun hst => ?_⟩
    -- an active start state has extensions on exactly one side, and faces away from it
    simp only [Bool.and_eq_true, beq_iff_eq] at hst
    by_cases hl : n.exts.numExtDir .L > 0
    · rw [if_pos hl]; exact hl
    · rw [if_neg hl]
      show 0 < n.exts.numExtDir .R
      split at hst
      · cases hst
      · omega

theorem beamInit_ne_nil (hne : g.nodes.isEmpty = false) : beamInit g score ≠ [] := by
  rw [beamInit_eq]
  by_cases hemp : (startStates g score).isEmpty = true
  · rw [if_pos hemp]
    cases hn : g.nodes with
    | nil => rw [hn] at hne; cases hne
    | cons n t => exact List.cons_ne_nil _ _
  · rw [if_neg hemp]
    intro e; rw [e] at hemp; exact hemp rfl

/-! ### every state is a trail, and an active state of age `a` is a path of `a + 1` distinct nodes -/

/-- a trail: consecutive entries follow reported edges and every node exists (a node may repeat: the beam search keeps
    paths that closed a cycle) -/
structure IsTrail (g : G D) (path : List (Nat × Dir)) : Prop where
  chain : ∀ p rest, path = p :: rest → ChainStep g p rest
  nodes : ∀ p ∈ path, (g.nodes[p.1]?).isSome

def StOK (a : Nat) (s : BState) : Prop :=
  s.path ≠ [] ∧ IsTrail g s.path ∧ (s.status = 0 → s.path.length = a + 1 ∧ (s.path.map (·.1)).Nodup)

theorem expandState_ok (a : Nat) (s : BState) (hs : StOK g a s) (hst : s.status = 0)
    (l : List BState) (h : expandState g score s = some l) : ∀ t ∈ l, StOK g (a + 1) t := by
  obtain ⟨_, hw, hact⟩ := hs
  obtain ⟨hlen, hnd⟩ := hact hst
  obtain ⟨cur, edges, hlast, he, _, hl⟩ := expandState_inv g score s l h
  intro t ht
  obtain ⟨e, hem, hn, hpath, h0⟩ := hl t ht
  rw [StOK, hpath]
  refine ⟨by simp, ⟨chain_snoc g s.path cur _ hw.chain hlast (Or.inl ⟨edges, e.2.2, he, hem⟩), ?_⟩, fun ht0 => ?_⟩
  · intro p hp
    rcases List.mem_append.mp hp with h1 | h1
    · exact hw.nodes p h1
    · rw [List.mem_singleton.mp h1]; exact hn
  · -- an active successor entered a node that was not on the path
    have hnew := (h0 ht0).1
    refine ⟨by rw [List.length_append, hlen]; rfl, ?_⟩
    rw [List.map_append, List.nodup_append]
    refine ⟨hnd, by simp, ?_⟩
    intro x hx y hy hxy
    rw [List.mem_singleton.mp hy] at hxy
    obtain ⟨p, hp, rfl⟩ := List.mem_map.mp hx
    have : (s.path.any fun p => p.1 == e.1) = true := List.any_eq_true.mpr ⟨p, hp, by simpa using hxy⟩
    rw [hnew] at this; cases this

theorem beamRound_ok (a : Nat) (states : List BState) (hs : ∀ s ∈ states, StOK g a s)
    (ns : List BState) (act : Bool) (h : beamRound g score beam states = some (ns, act)) : ∀ s ∈ ns, StOK g (a + 1) s := by
  intro t ht
  obtain ⟨s, hsm, ⟨h0, rfl⟩ | ⟨h0, l, he, htl⟩⟩ := beamRound_mem g score beam states ns act h t ht
  · obtain ⟨h1, h2, _⟩ := hs t hsm
    exact ⟨h1, h2, fun h => absurd h h0⟩
  · exact expandState_ok g score a s (hs s hsm) h0 l he t htl

/-- while a state is active, fewer rounds have passed than there are nodes: an active path repeats no node -/
theorem round_age_lt (a : Nat) (states : List BState) (hs : ∀ s ∈ states, StOK g a s)
    (ns : List BState) (h : beamRound g score beam states = some (ns, true)) : a + 1 ≤ g.nodes.length := by
  obtain ⟨hact, _⟩ := beamRound_inv g score beam states ns true h
  obtain ⟨s, hsm, hst⟩ := List.any_eq_true.mp hact.symm
  obtain ⟨_, hw, h0⟩ := hs s hsm
  obtain ⟨hlen, hnd⟩ := h0 (by simpa using hst)
  have hsub : s.path.map (·.1) ⊆ List.range g.nodes.length := by
    intro x hx
    obtain ⟨p, hp, rfl⟩ := List.mem_map.mp hx
    obtain ⟨n, hn⟩ := Option.isSome_iff_exists.mp (hw.nodes p hp)
    exact List.mem_range.mpr (List.getElem?_eq_some_iff.mp hn).1
  have := List.Nodup.length_le_of_subset hnd hsub
  rw [List.length_map, List.length_range, hlen] at this
  exact this

theorem beamInit_ok : ∀ s ∈ beamInit g score, StOK g 0 s := by
  intro s hs
  obtain ⟨i, n, d, hn, hp, _⟩ := beamInit_mem g score s hs
  rw [StOK, hp]
  refine ⟨by simp, ⟨fun p r h => by cases h; trivial, fun p hp => ?_⟩, fun _ => ⟨rfl, by simp⟩⟩
  rw [List.mem_singleton.mp hp, hn]; rfl

/-- **every path `max_path_beam` returns is a trail**: consecutive entries follow reported edges, every node exists -/
theorem maxPathBeam_trail (g : G D) (beam : Nat) (score : D → Int) (path : List (Nat × Dir))
    (h : maxPathBeam g beam score = some path) : IsTrail g path := by
  unfold maxPathBeam at h
  split at h
  · cases h; exact ⟨fun p r h => (by cases h), fun p hp => (by cases hp)⟩
  · cases hl : beamLoop g score beam (g.nodes.length + 2) (beamInit g score) with
    | none => rw [hl] at h; cases h
    | some sts =>
      rw [hl] at h
      simp only at h
      cases sts with
      | nil => cases h
      | cons s0 rest =>
        cases h
        obtain ⟨a, ha⟩ := beamLoop_inv g score beam (fun a sts => ∀ s ∈ sts, StOK g a s)
          (fun a states ns act hP hr => beamRound_ok g score beam a states hP ns act hr) _ 0 _ _ (beamInit_ok g score) hl
        exact (ha s0 (List.mem_cons_self ..)).2.1

/-- **the loop terminates**: with enough fuel for the remaining ages the result does not depend on the fuel -/
theorem beamLoop_fuel : ∀ (f1 f2 a : Nat) (states : List BState),
    g.nodes.length + 1 ≤ f1 + a → g.nodes.length + 1 ≤ f2 + a → 1 ≤ f1 → 1 ≤ f2 → (∀ s ∈ states, StOK g a s) →
    beamLoop g score beam f1 states = beamLoop g score beam f2 states := by
  intro f1
  induction f1 with
  | zero => intro f2 a states _ _ h; omega
  | succ f1 ih =>
    intro f2 a states h1 h2 _ h4 hok
    obtain ⟨f2, rfl⟩ : ∃ k, f2 = k + 1 := ⟨f2 - 1, by omega⟩
    unfold beamLoop
    cases hr : beamRound g score beam states with
    | none => rfl
    | some r =>
      obtain ⟨ns, act⟩ := r
      simp only
      cases act with
      | false => rfl
      | true =>
        have := round_age_lt g score beam a states hok ns hr
        exact ih f2 (a + 1) ns (by omega) (by omega) (by omega) (by omega) (beamRound_ok g score beam a states hok ns true hr)

/-- **`max_path_beam` terminates**: any amount of fuel beyond `nodes.length + 1` rounds gives the same answer -/
theorem maxPathBeam_fuel (g : G D) (beam : Nat) (score : D → Int) (fuel : Nat) (hf : g.nodes.length + 1 ≤ fuel) :
    beamLoop g score beam fuel (beamInit g score) = beamLoop g score beam (g.nodes.length + 2) (beamInit g score) :=
  beamLoop_fuel g score beam fuel (g.nodes.length + 2) 0 _ (by omega) (by omega) (by omega) (by omega) (beamInit_ok g score)

theorem expandState_total (a : Nat) (s : BState) (hs : StOK g a s) :
    ∃ l, expandState g score s = some l := by
  have hE : ∀ (i : Nat) (d : Dir), (g.nodes[i]?).isSome → ∃ es, findEdges g i d = some es := by
    intro i d hi
    obtain ⟨n, hn⟩ := Option.isSome_iff_exists.mp hi
    exact ⟨_, by unfold findEdges; rw [hn]⟩
  unfold expandState
  obtain ⟨hne, hw, _⟩ := hs
  obtain ⟨cur, hlast⟩ : ∃ c, s.path.getLast? = some c := ⟨_, List.getLast?_eq_some_getLast hne⟩
  rw [hlast]
  simp only
  obtain ⟨edges, he⟩ := hE cur.1 cur.2.flip (hw.nodes cur (List.mem_of_getLast? hlast))
  rw [he]
  simp only
  apply List.exists_mapM_eq_some
  intro e hem
  have hn := (findEdges_nodes g cur.1 cur.2.flip edges he).2 e hem
  obtain ⟨nn, hnn⟩ := Option.isSome_iff_exists.mp hn
  rw [hnn]
  simp only
  split
  · exact ⟨_, rfl⟩
  · obtain ⟨es, hes⟩ := hE e.1 e.2.1.flip hn
    rw [hes]; exact ⟨_, rfl⟩

theorem beamRound_total (a : Nat) (states : List BState)
    (hs : ∀ s ∈ states, StOK g a s) : ∃ r, beamRound g score beam states = some r := by
  unfold beamRound
  obtain ⟨parts, hp⟩ := List.exists_mapM_eq_some (fun s => if s.status == 0 then expandState g score s else some [s]) states (fun s hsm => by
    split
    · exact expandState_total g score a s (hs s hsm)
    · exact ⟨_, rfl⟩)
  rw [hp]; exact ⟨_, rfl⟩

/-- **the beam search leaves its loop**: no edge lookup of the model panics, and the ages are bounded -/
theorem beamLoop_some : ∀ (f a : Nat) (states : List BState),
    g.nodes.length + 1 ≤ f + a → 1 ≤ f → (∀ s ∈ states, StOK g a s) → ∃ out, beamLoop g score beam f states = some out := by
  intro f
  induction f with
  | zero => intro a states _ h; omega
  | succ f ih =>
    intro a states h1 _ hok
    unfold beamLoop
    obtain ⟨⟨ns, act⟩, hr⟩ := beamRound_total g score beam a states hok
    rw [hr]
    simp only
    cases act with
    | false => exact ⟨_, rfl⟩
    | true =>
      have := round_age_lt g score beam a states hok ns hr
      exact ih (a + 1) ns (by omega) (by omega) (beamRound_ok g score beam a states hok ns true hr)

/-- **`max_path_beam` always leaves its loop**: the loop ends within `nodes.length + 1` rounds with some list of states, and
    the answer is the path of the first of them (the only panic left is `states[0]` on an empty list: beam width 0) -/
theorem maxPathBeam_returns (g : G D) (beam : Nat) (score : D → Int) (hne : g.nodes.isEmpty = false) :
    ∃ sts, beamLoop g score beam (g.nodes.length + 2) (beamInit g score) = some sts ∧
      maxPathBeam g beam score = sts.head?.map (·.path) := by
  obtain ⟨sts, h⟩ := beamLoop_some g score beam (g.nodes.length + 2) 0 (beamInit g score) (by omega) (by omega) (beamInit_ok g score)
  refine ⟨sts, h, ?_⟩
  unfold maxPathBeam
  rw [hne, h]
  rfl

/-- every side of a node that records an extension has at least one resolvable edge (true when all extensions resolve) -/
def Resolving : Prop :=
  ∀ (i : Nat) (n : Node D) (d : Dir), g.nodes[i]? = some n → 0 < n.exts.numExtDir d → ∃ es, findEdges g i d = some es ∧ es ≠ []

def ActiveOK (s : BState) : Prop :=
  s.status = 0 → ∃ cur es, s.path.getLast? = some cur ∧ findEdges g cur.1 cur.2.flip = some es ∧ es ≠ []

theorem expandState_active (s : BState) (hst : s.status = 0) (ha : ActiveOK g s)
    (l : List BState) (h : expandState g score s = some l) : l ≠ [] ∧ ∀ t ∈ l, ActiveOK g t := by
  obtain ⟨cur, es, hlast, he, hne⟩ := ha hst
  obtain ⟨cur', edges, hlast', he', hlen, hl⟩ := expandState_inv g score s l h
  rw [hlast] at hlast'; cases hlast'
  rw [he] at he'; cases he'
  refine ⟨fun e0 => hne (List.length_eq_zero_iff.mp (by rw [← hlen, e0]; rfl)), fun t ht ht0 => ?_⟩
  obtain ⟨e, _, _, hpath, h0⟩ := hl t ht
  obtain ⟨_, es2, he2, hne2⟩ := h0 ht0
  exact ⟨(e.1, e.2.1), es2, by rw [hpath]; simp, he2, hne2⟩

theorem beamRound_active (hb : 1 ≤ beam) (states : List BState)
    (hne : states ≠ []) (ha : ∀ s ∈ states, ActiveOK g s) (ns : List BState) (act : Bool)
    (h : beamRound g score beam states = some (ns, act)) : ns ≠ [] ∧ ∀ s ∈ ns, ActiveOK g s := by
  constructor
  · obtain ⟨_, parts, hlen, rfl, hparts⟩ := beamRound_inv g score beam states ns act h
    -- every part is non-empty, and there is a part
    obtain ⟨p0, pt, rfl⟩ := List.exists_cons_of_ne_nil (show parts ≠ [] by
      intro e; rw [e] at hlen; exact hne (List.length_eq_zero_iff.mp hlen.symm))
    have hp0 : p0 ≠ [] := by
      obtain ⟨s, hs, ⟨_, rfl⟩ | ⟨h0, he⟩⟩ := hparts p0 (List.mem_cons_self ..)
      · simp
      · exact (expandState_active g score s h0 (ha s hs) p0 he).1
    intro e
    have hl := congrArg List.length e
    rw [List.length_take, List.length_mergeSort, List.flatten_cons, List.length_append, List.length_nil] at hl
    have := List.length_pos_iff.mpr hp0
    omega
  · intro t ht
    obtain ⟨s, hsm, ⟨_, rfl⟩ | ⟨h0, l, he, htl⟩⟩ := beamRound_mem g score beam states ns act h t ht
    · exact ha t hsm
    · exact (expandState_active g score s h0 (ha s hsm) l he).2 t htl

theorem beamInit_active (g : G D) (hr : Resolving g) (score : D → Int) : ∀ s ∈ beamInit g score, ActiveOK g s := by
  intro s hs hst
  obtain ⟨i, n, d, hn, hp, hext⟩ := beamInit_mem g score s hs
  obtain ⟨es, he, hne⟩ := hr i n d.flip hn (hext hst)
  exact ⟨(i, d), es, by rw [hp]; rfl, he, hne⟩

/-- **`max_path_beam` returns** on every non-empty graph whose recorded extensions all resolve, for every beam width ≥ 1
    (with a dangling extension the only state can be dropped and `states[0]` panics: a node `ACGT` with right extension `A`
    recorded and no such node is the smallest case, confirmed on the crate) -/
theorem maxPathBeam_some (g : G D) (hr : Resolving g) (hne : g.nodes.isEmpty = false) (beam : Nat) (hb : 1 ≤ beam) (score : D → Int) :
    ∃ path, maxPathBeam g beam score = some path := by
  obtain ⟨sts, hl, hm⟩ := maxPathBeam_returns g beam score hne
  obtain ⟨_, hsts, _⟩ := beamLoop_inv g score beam (fun _ sts => sts ≠ [] ∧ ∀ s ∈ sts, ActiveOK g s)
    (fun _ states ns act hP hr => beamRound_active g score beam hb states hP.1 hP.2 ns act hr) _ 0 _ _
    ⟨beamInit_ne_nil g score hne, beamInit_active g hr score⟩ hl
  obtain ⟨s0, t, rfl⟩ := List.exists_cons_of_ne_nil hsts
  exact ⟨s0.path, by rw [hm]; rfl⟩

end

end Graph
