import Dbg.Lemmas.BucketPure
import Dbg.Lemmas.FilterRc
/-! Sharding loses and invents no observation: the (k-mer, extensions) stream of the minimizer pieces of a read,
    concatenated, is the stream of the read itself; hence every shard's table is the restriction of the one-pass
    table to the shard's bucket. -/
namespace Filter
open Compress (Seq Base Exts)
open Msp (Piece PiecesFrom flankByte optPow)

theorem flank_and (lo ro : Option Base) :
    (optPow 0 lo + optPow 4 ro) &&& 15 = bitL lo &&& 15 ∧ (optPow 0 lo + optPow 4 ro) &&& 240 = bitR ro &&& 240 := by
  cases lo with
  | none => cases ro with
    | none => decide
    | some r => revert r; decide
  | some l => cases ro with
    | none => revert l; decide
    | some r => revert l r; decide

def flankE (s : Seq) (a len : Nat) : Exts := ⟨optPow 0 (if a = 0 then none else s[a - 1]?) + optPow 4 s[a + len]?⟩

theorem flankByte_eq (seq : Array Base) (a len : Nat) : (⟨flankByte seq a len⟩ : Exts) = flankE seq.toList a len := by
  unfold flankByte flankE
  congr 2
  · by_cases h : a = 0
    · simp [h, optPow]
    · simp [h]
  · simp

/-- **one piece**: the stream of the substring `[a, a+len)` of `s`, fed with its true flanks as boundary extensions, is
    the stream of `s` restricted to the windows starting in `[a, a+len-K]` -/
theorem piece_stream (s : Seq) (K len a : Nat) (hK : 1 ≤ K) (hkl : K ≤ len) (hle : a + len ≤ s.length) :
    kmerExtsOf K (win s len a) (flankE s a len) =
      (List.range' a (len - K + 1)).map fun i => (win s K i, rawE s K i) := by
  have hlen : (win s len a).length = len := win_length s len a hle
  rw [kmerExtsOf_flanked K (win s len a) (flankE s a len) (if a = 0 then none else s[a - 1]?) s[a + len]?
    (flank_and _ _).1 (flank_and _ _).2 (by rw [hlen]; exact hkl), hlen, List.range'_eq_map_range, List.map_map]
  apply List.map_congr_left
  intro i hi
  have hik : i + K ≤ len := by rw [List.mem_range] at hi; omega
  refine Prod.ext (win_win s len a K i hik) ?_
  show mkE _ _ = rawE s K (a + i)
  unfold rawE
  congr 1
  · -- the left neighbour: the flank for the first k-mer of the piece, a base of the piece otherwise
    cases i with
    | zero => rfl
    | succ i =>
      rw [if_neg (Nat.succ_ne_zero i), ← Nat.add_assoc, if_neg (Nat.succ_ne_zero (a + i)), Nat.add_sub_cancel,
        Nat.add_sub_cancel, win_getElem? s len a i (by omega)]
  · by_cases h1 : i + K = len
    · rw [if_pos h1, ← h1, Nat.add_assoc]
    · rw [if_neg h1, win_getElem? s len a (i + K) (by omega), Nat.add_assoc]

theorem pieces_stream (seq : Array Base) (K : Nat) (hK : 1 ≤ K) :
    ∀ (pcs : List Piece) (a : Nat), PiecesFrom seq K a pcs →
      pcs.flatMap (fun pc => kmerExtsOf K pc.seq ⟨pc.exts⟩) =
        (List.range' a (seq.size - K + 1 - a)).map fun i => (win seq.toList K i, rawE seq.toList K i) := by
  intro pcs a h
  obtain ⟨c, hc, hn⟩ := Msp.pieces_tile seq K hK (fun i => (win seq.toList K i, rawE seq.toList K i))
    (fun pc => kmerExtsOf K pc.seq ⟨pc.exts⟩)
    (fun pc a hkl hle hw he => by
      rw [he, flankByte_eq, ← piece_stream seq.toList K pc.seq.length a hK hkl hle, ← Msp.window_eq, ← hw]) a pcs h
  rw [hc, ← hn, Nat.add_sub_cancel, Nat.add_assoc, Nat.add_sub_cancel_left]

theorem observations_append (K : Nat) (l1 l2 : List (Seq × Exts × Nat)) (st : Bool) :
    observations K (l1 ++ l2) st = observations K l1 st ++ observations K l2 st := by
  unfold observations; rw [List.flatMap_append]

/-- a piece as an input of `filter_kmers` (label 0) -/
def pieceRead (pc : Piece) : Seq × Exts × Nat := (pc.seq, ⟨pc.exts⟩, 0)

def TilesRead (K : Nat) (seq : Array Base) (pieces : List Piece) : Prop :=
  if seq.size < K then pieces = [] else PiecesFrom seq K 0 pieces

theorem read_observations (K : Nat) (hK : 1 ≤ K) (seq : Array Base) (pieces : List Piece) (st : Bool)
    (h : TilesRead K seq pieces) :
    observations K (pieces.map pieceRead) st = observations K [(seq.toList, (⟨0⟩ : Exts), 0)] st := by
  rw [observations_canon, observations_canon]
  simp only [List.flatMap_cons, List.flatMap_nil, List.append_nil]
  rw [kmerExtsOf_zero K seq.toList]
  unfold TilesRead at h
  by_cases hs : seq.size < K
  · rw [if_pos hs] at h
    subst h
    simp [hs]
  · rw [if_neg hs] at h
    have hp := pieces_stream seq K hK pieces 0 h
    have : ¬ seq.toList.length < K := by simpa using hs
    rw [if_neg this]
    have e : (pieces.map pieceRead).flatMap (fun r => (kmerExtsOf K r.1 r.2.1).map fun x => canonObs st x.1 x.2 r.2.2) =
        (pieces.flatMap fun pc => kmerExtsOf K pc.seq ⟨pc.exts⟩).map fun x => canonObs st x.1 x.2 0 := by
      rw [List.flatMap_map, List.map_flatMap]
      rfl
    rw [e, hp, List.range_eq_range']
    simp

def AllTile (K : Nat) : List Seq → List (List Piece) → Prop
  | [], [] => True
  | r :: rs, ps :: pss => TilesRead K r.toArray ps ∧ AllTile K rs pss
  | _, _ => False

/-- a read as the one-pass pipeline feeds it to `filter_kmers`: no boundary extensions, label 0 -/
def plainRead (r : Seq) : Seq × Exts × Nat := (r, ⟨0⟩, 0)

theorem reads_observations (K : Nat) (hK : 1 ≤ K) (st : Bool) :
    ∀ (reads : List Seq) (pss : List (List Piece)), AllTile K reads pss →
      observations K (pss.flatten.map pieceRead) st = observations K (reads.map plainRead) st := by
  intro reads
  induction reads with
  | nil =>
    intro pss h
    cases pss with
    | nil => rfl
    | cons _ _ => exact absurd h (by simp [AllTile])
  | cons r rs ih =>
    intro pss h
    cases pss with
    | nil => exact absurd h (by simp [AllTile])
    | cons ps pss =>
      obtain ⟨h1, h2⟩ : TilesRead K r.toArray ps ∧ AllTile K rs pss := h
      rw [List.flatten_cons, List.map_append, observations_append, ih pss h2, read_observations K hK r.toArray ps st h1]
      rw [List.map_cons, ← observations_append]
      rfl

theorem flatMap_filter_of {α β} (l : List α) (f : α → List β) (p : α → Bool) (q : β → Bool)
    (h : ∀ x ∈ l, ∀ y ∈ f x, q y = p x) : (l.filter p).flatMap f = (l.flatMap f).filter q := by
  induction l with
  | nil => rfl
  | cons x xs ih =>
    have ihh := ih (fun x hx => h x (List.mem_cons_of_mem _ hx))
    have hx := h x (List.mem_cons_self ..)
    rw [List.flatMap_cons, List.filter_append, ← ihh]
    by_cases hp : p x = true
    · rw [List.filter_cons_of_pos hp, List.flatMap_cons]
      congr 1
      exact (List.filter_eq_self.mpr (fun y hy => by rw [hx y hy, hp])).symm
    · rw [List.filter_cons_of_neg hp]
      have : (f x).filter q = [] := List.filter_eq_nil_iff.mpr (fun y hy => by rw [hx y hy]; exact hp)
      rw [this, List.nil_append]

theorem shard_observations (K : Nat) (st : Bool) (all : List Piece) (p : Piece → Bool) (q : Seq → Bool)
    (h : ∀ pc ∈ all, ∀ o ∈ observations K [pieceRead pc] st, q o.1 = p pc) :
    observations K ((all.filter p).map pieceRead) st = (observations K (all.map pieceRead) st).filter fun o => q o.1 := by
  have e : ∀ l : List Piece, observations K (l.map pieceRead) st = l.flatMap fun pc => observations K [pieceRead pc] st := by
    intro l
    unfold observations
    rw [List.flatMap_map]
    simp
  rw [e, e]
  exact flatMap_filter_of all _ p _ h

def groupsOf (obs : List Ob) : List (Seq × List (Exts × Nat)) := (distinctKeys obs).map (obsOf obs)

theorem refGroups_eq (K : Nat) (reads : List (Seq × Exts × Nat)) (st : Bool) :
    refGroups K reads st = groupsOf (observations K reads st) := rfl

/-- **restriction**: if the reads `sub` observe exactly the observations of `full` whose key satisfies `q`, then the
    table of `sub` is the part of the table of `full` with keys satisfying `q`, row for row (same extensions, same
    payload, same order), and likewise the list of all k-mers -/
theorem table_restrict (K : Nat) (sub full : List (Seq × Exts × Nat)) (sm : Summarizer) (st : Bool) (q : Seq → Bool)
    (h : observations K sub st = (observations K full st).filter fun o => q o.1) :
    refTable K sub sm st = (refTable K full sm st).filter (fun e => q e.key) ∧
    refAllKmers K sub st = (refAllKmers K full st).filter q := by
  constructor
  · rw [refTable_eq, refTable_eq, h, distinctKeys_filter, List.filterMap_filter, List.filter_filterMap]
    congr 1
    funext k
    -- a row has key `k`, so it passes the filter iff `q k`
    have hf : Option.filter (fun e => q e.key) (entryOf sm (observations K full st) k) =
        if q k = true then entryOf sm (observations K full st) k else none := by
      cases he : entryOf sm (observations K full st) k with
      | none => simp
      | some e => simp [Option.filter, (entryOf_some he).1]
    rw [hf]
    split
    · rw [entryOf, filter_filter_key _ q k ‹_›]; rfl
    · rfl
  · rw [refAllKmers_eq, refAllKmers_eq, h, distinctKeys_filter]

theorem kmerExtsOf_keys (K : Nat) (s : Seq) (e : Exts) : (kmerExtsOf K s e).map (·.1) = Msp.kmersOfSeq K s :=
  kmerExtsOf_fst K s e

/-- every observation made from a piece whose k-mers all fall in the piece's bucket has a key in that bucket: the key
    is the k-mer itself or (unstranded: reverse-complement mode) its reverse complement, which has the same bucket -/
theorem piece_obs_bucket (K P : Nat) (hPK : P ≤ K) (perm : Array Nat) (hsz : perm.size = 4 ^ P) (hinj : Msp.PermInj perm)
    (st : Bool) (pc : Piece) (hpure : ∀ x ∈ Msp.kmersOfSeq K pc.seq, pc.bucket = Msp.bucketOf perm (!st) P x) :
    ∀ o ∈ observations K [pieceRead pc] st, Msp.bucketOf perm (!st) P o.1 = pc.bucket := by
  intro o ho
  rw [observations_canon] at ho
  simp only [List.flatMap_cons, List.flatMap_nil, List.append_nil, List.mem_map, pieceRead] at ho
  obtain ⟨x, hx, rfl⟩ := ho
  have hk : x.1 ∈ Msp.kmersOfSeq K pc.seq := by
    rw [← kmerExtsOf_keys K pc.seq ⟨pc.exts⟩]; exact List.mem_map_of_mem hx
  have hlen : x.1.length = K := kmerExtsOf_len K pc.seq ⟨pc.exts⟩ x hx
  have hb := (hpure x.1 hk).symm
  rw [canonObs_eq]
  rcases canonSt_cases st x.1 with ⟨hc, _⟩ | ⟨rfl, _, hc⟩
  · rw [hc]; exact hb
  · rw [hc]; exact (Msp.bucketOf_rc perm P hsz hinj x.1 (by omega)).trans hb

end Filter
