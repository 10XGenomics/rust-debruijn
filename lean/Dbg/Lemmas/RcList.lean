import Dbg.Spec.C10
import Dbg.Model.Seq
import Dbg.Lemmas.ListWindow
/-! Reverse complement `KSpec.rc` on `List Nat`, the base vectors of the packed containers: involution, positions, windows.
    The counterpart on `List (Fin 4)` is in `SeqLemmas`. -/
namespace KSpec

theorem comp_comp (b : Nat) (h : b < 4) : comp (comp b) = b := by unfold comp; omega

theorem rc_rc (l : List Nat) (h : ∀ b ∈ l, b < 4) : rc (rc l) = l := by
  unfold rc
  rw [List.map_reverse, List.reverse_reverse, List.map_map]
  conv => rhs; rw [← List.map_id l]
  apply List.map_congr_left
  intro b hb; simp [Function.comp, comp_comp b (h b hb)]

theorem rc_length (l : List Nat) : (rc l).length = l.length := by simp [rc]

theorem rc_getElem (l : List Nat) (i : Nat) (hi : i < l.length) :
    (rc l)[i]'(by simp [rc]; exact hi) = 3 - l[l.length - 1 - i] := by
  simp [rc, comp, List.getElem_reverse]

theorem rc_getElem? (s : List Nat) (p q : Nat) (h : p + q + 1 = s.length) : (rc s)[q]? = (s[p]?).map (3 - ·) :=
  List.getElem?_map_reverse comp s p q h

theorem rc_window (l : List Nat) (k i : Nat) (h : i + k ≤ l.length) :
    rc ((l.drop i).take k) = ((rc l).drop (l.length - k - i)).take k :=
  (List.map_reverse_window comp l k i _ (by omega)).symm

theorem windows_rc (l : List Nat) (k : Nat) (hk : k ≤ l.length) :
    windows k (rc l) = (windows k l).reverse.map rc := by
  unfold windows
  rw [rc_length, if_neg (Nat.not_lt.mpr hk), if_neg (Nat.not_lt.mpr hk), List.map_reverse, List.map_map]
  exact List.map_reverse_windows comp l k hk

end KSpec
