import Dbg.Lemmas.NodeExts
/-! The two end ports of a built node, abstractly: every other port of every member of the node is joined by a link to
    another non-end port of the same node.  (A port is `(id, direction)`; following `link id direction` leaves the
    k-mer on that side.) -/
namespace Compress
open Walk (Dir Link Sym)

def flip2 (p : Nat × Dir) : Nat × Dir := (p.1, p.2.flip)

theorem flip2_flip2 (p : Nat × Dir) : flip2 (flip2 p) = p := by
  obtain ⟨a, d⟩ := p; cases d <;> rfl

theorem flip2_ne (p : Nat × Dir) : flip2 p ≠ p := by
  obtain ⟨a, d⟩ := p; cases d <;> simp [flip2, Dir.flip]

def OChain (link : Link) : List (Nat × Dir) → Prop
  | [] => True
  | a :: rest => LinkedFrom link a.1 a.2 rest

theorem linkedFrom_append_iff (link : Link) (l1 l2 : List (Nat × Dir)) (x : Nat) (d : Dir) :
    LinkedFrom link x d (l1 ++ l2) ↔
      LinkedFrom link x d l1 ∧ LinkedFrom link (lastPort l1 x d).1 (lastPort l1 x d).2 l2 := by
  induction l1 generalizing x d with
  | nil => exact ⟨fun h => ⟨trivial, h⟩, fun h => h.2⟩
  | cons c t ih =>
    obtain ⟨y, d'⟩ := c
    rw [lastPort_cons]
    exact (and_congr_right fun _ => ih y d').trans and_assoc.symm

theorem ochain_append (link : Link) (l1 l2 : List (Nat × Dir)) (q : Nat × Dir)
    (h1 : OChain link (l1 ++ [q])) (h2 : LinkedFrom link q.1 q.2 l2) : OChain link (l1 ++ [q] ++ l2) := by
  cases l1 with
  | nil => exact h2
  | cons a t =>
    refine (linkedFrom_append_iff link (t ++ [q]) l2 a.1 a.2).mpr ⟨h1, ?_⟩
    rwa [show lastPort (t ++ [q]) a.1 a.2 = q by simp [lastPort]]

theorem ochain_reverse (link : Link) (hs : Sym link) (x : Nat) (d : Dir) (rest : List (Nat × Dir))
    (h : LinkedFrom link x d rest) : OChain link ((rest.map flip2).reverse ++ [flip2 (x, d)]) := by
  induction rest generalizing x d with
  | nil => trivial
  | cons q t ih =>
    obtain ⟨q1, q2⟩ := q
    have h1 := ih q1 q2 h.2
    simp only [List.map_cons, List.reverse_cons, List.append_assoc, List.singleton_append]
    have e : (t.map flip2).reverse ++ flip2 (q1, q2) :: [flip2 (x, d)] = ((t.map flip2).reverse ++ [flip2 (q1, q2)]) ++ [flip2 (x, d)] := by simp
    rw [e]
    exact ochain_append link _ [flip2 (x, d)] (flip2 (q1, q2)) h1 ⟨hs x d q1 q2 h.1, trivial⟩

theorem linkedFrom_getElem (link : Link) : ∀ (cs : List (Nat × Dir)) (x : Nat) (d : Dir), LinkedFrom link x d cs →
    ∀ (i : Nat) (a b : Nat × Dir), ((x, d) :: cs)[i]? = some a → ((x, d) :: cs)[i + 1]? = some b → link a.1 a.2 = some b := by
  intro cs
  induction cs with
  | nil => intro x d _ i a b _ hb; simp at hb
  | cons c t ih =>
    intro x d h i a b ha hb
    obtain ⟨c1, c2⟩ := c
    cases i with
    | zero =>
      simp only [List.getElem?_cons_zero, Option.some.injEq] at ha
      simp only [List.getElem?_cons_succ, List.getElem?_cons_zero, Option.some.injEq] at hb
      subst ha; subst hb; exact h.1
    | succ i =>
      rw [List.getElem?_cons_succ] at ha hb
      exact ih c1 c2 h.2 i a b ha hb

theorem ochain_getElem (link : Link) (cs : List (Nat × Dir)) (h : OChain link cs) (i : Nat) (a b : Nat × Dir)
    (ha : cs[i]? = some a) (hb : cs[i + 1]? = some b) : link a.1 a.2 = some b := by
  cases cs with
  | nil => simp at ha
  | cons c t => exact linkedFrom_getElem link t c.1 c.2 h i a b ha hb

/-- in a chain, a port of the `j`-th entry that is neither the flipped head nor the last port leads on: its own side to
    the next entry, the other side to the previous one -/
theorem chain_neighbour {cs : List (Nat × Dir)} {j : Nat} {a : Nat × Dir} (ha : cs[j]? = some a) (d : Dir)
    (hL : cs.head?.map flip2 ≠ some (a.1, d)) (hR : cs.getLast? ≠ some (a.1, d)) :
    (d = a.2 ∧ ∃ c, cs[j + 1]? = some c) ∨ (d = a.2.flip ∧ ∃ j' c, j = j' + 1 ∧ cs[j']? = some c) := by
  have hj : j < cs.length := (List.getElem?_eq_some_iff.mp ha).1
  rcases Walk.dir_cases d a.2 with hd | hd
  · refine Or.inl ⟨hd, ?_⟩
    have hj1 : j + 1 < cs.length := by
      apply Nat.lt_of_le_of_ne hj
      intro e1
      apply hR
      rw [List.getLast?_eq_getElem?, ← e1, Nat.succ_sub_one, ha, hd]
    exact ⟨_, List.getElem?_eq_getElem hj1⟩
  · refine Or.inr ⟨hd, ?_⟩
    cases j with
    | zero => exact absurd (by rw [List.head?_eq_getElem?, ha, hd]; rfl) hL
    | succ j' => exact ⟨j', _, rfl, List.getElem?_eq_getElem (Nat.lt_of_succ_lt hj)⟩

/-- **ports of a chain.** In a chain with pairwise distinct ids, a port of a member that is neither the flipped head
    (the left end) nor the last entry (the right end) leads, by a link, to a member whose facing port is again neither. -/
theorem chain_inner (link : Link) (hs : Sym link) (cs : List (Nat × Dir)) (hc : OChain link cs)
    (hnd : ∀ (i j : Nat) (a b : Nat × Dir), cs[i]? = some a → cs[j]? = some b → a.1 = b.1 → i = j)
    (c0 cm : Nat × Dir) (h0 : cs[0]? = some c0) (hm : cs[cs.length - 1]? = some cm)
    (i : Nat) (a : Nat × Dir) (ha : cs[i]? = some a) (δ : Dir)
    (hL : (a.1, δ) ≠ flip2 c0) (hR : (a.1, δ) ≠ cm) :
    ∃ (j : Nat) (b : Nat × Dir) (d' : Dir), cs[j]? = some b ∧ link a.1 δ = some (b.1, d') ∧
      (b.1, d'.flip) ≠ flip2 c0 ∧ (b.1, d'.flip) ≠ cm := by
  have same : ∀ {j k : Nat} {x y : Nat × Dir}, cs[j]? = some x → cs[k]? = some y → x.1 = y.1 → j = k ∧ x = y := by
    intro j k x y hx hy e
    cases hnd j k x y hx hy e
    exact ⟨rfl, Option.some.inj (hx.symm.trans hy)⟩
  have hL' : cs.head?.map flip2 ≠ some (a.1, δ) := by
    rw [List.head?_eq_getElem?, h0]
    exact fun e => hL (Option.some.inj e).symm
  have hR' : cs.getLast? ≠ some (a.1, δ) := by
    rw [List.getLast?_eq_getElem?, hm]
    exact fun e => hR (Option.some.inj e).symm
  rcases chain_neighbour ha δ hL' hR' with ⟨rfl, b, hb⟩ | ⟨rfl, j, b, rfl, hb⟩
  · -- the forward port leads to the next entry
    refine ⟨i + 1, b, _, hb, ochain_getElem link cs hc i a b ha hb, fun e => ?_, fun e => ?_⟩
    · exact absurd (same hb h0 (congrArg Prod.fst e :)).1 (Nat.succ_ne_zero i)
    · exact flip2_ne cm ((same hb hm (congrArg Prod.fst e :)).2 ▸ e)
  · -- the backward port leads, by reciprocity, to the previous entry
    refine ⟨j, b, _, hb, hs _ _ _ _ (ochain_getElem link cs hc j b a hb ha), fun e => ?_, fun e => ?_⟩
    · rw [Dir.flip_flip] at e
      exact flip2_ne c0 (((same hb h0 (congrArg Prod.fst e :)).2 ▸ e).symm)
    · have := (same hb hm (congrArg Prod.fst e :)).1
      have := (List.getElem?_eq_some_iff.mp ha).1
      omega

/-- the members of a node from its left end to its right end, each with the direction that leads rightwards -/
def nodeChain (lw rw : List (Nat × Dir)) (seed : Nat) : List (Nat × Dir) := (lw.map flip2).reverse ++ [(seed, Dir.R)] ++ rw

theorem nodeChain_ochain (link : Link) (hs : Sym link) (lw rw : List (Nat × Dir)) (seed : Nat)
    (hl : LinkedFrom link seed .L lw) (hr : LinkedFrom link seed .R rw) : OChain link (nodeChain lw rw seed) :=
  ochain_append link _ rw (seed, .R) (ochain_reverse link hs seed .L lw hl) hr

theorem nodeChain_ids (lw rw : List (Nat × Dir)) (seed : Nat) :
    (nodeChain lw rw seed).map Prod.fst = (lw.map Prod.fst).reverse ++ [seed] ++ rw.map Prod.fst := by
  unfold nodeChain
  simp only [List.map_append, List.map_reverse, List.map_map, List.map_cons, List.map_nil]
  congr 3

theorem nodeChain_head (lw rw : List (Nat × Dir)) (seed : Nat) :
    ∃ c0, (nodeChain lw rw seed)[0]? = some c0 ∧ flip2 c0 = lastPort lw seed .L := by
  refine ⟨flip2 (lastPort lw seed .L), ?_, flip2_flip2 _⟩
  rw [nodeChain, ← List.head?_eq_getElem?, show (seed, Dir.R) = flip2 (seed, .L) from rfl, ← List.reverse_cons,
    List.head?_append, List.head?_reverse, getLast?_cons_map_lastPort]
  rfl

theorem nodeChain_last (lw rw : List (Nat × Dir)) (seed : Nat) :
    (nodeChain lw rw seed)[(nodeChain lw rw seed).length - 1]? = some (lastPort rw seed .R) := by
  rw [← List.getLast?_eq_getElem?, nodeChain, List.append_assoc, List.singleton_append, List.getLast?_append, List.getLast?_cons]
  rfl

theorem nodup_fst_inj (cs : List (Nat × Dir)) (h : (cs.map Prod.fst).Nodup) :
    ∀ (i j : Nat) (a b : Nat × Dir), cs[i]? = some a → cs[j]? = some b → a.1 = b.1 → i = j := by
  intro i j a b ha hb hab
  apply (List.getElem?_inj (by simpa using (List.getElem?_eq_some_iff.mp ha).1) h).mp
  rw [List.getElem?_map, List.getElem?_map, ha, hb]
  exact congrArg some hab

theorem build_chain (link : Link) (hs : Sym link) (avail : List Nat) (seed : Nat) (hseed : seed ∈ avail)
    (lw rw : List (Nat × Dir) × List Nat)
    (hlw : Walk.walk link (Walk.rm avail seed) seed .L = lw) (hrw : Walk.walk link lw.2 seed .R = rw) :
    (Walk.build link avail seed).1 = (nodeChain lw.1 rw.1 seed).map Prod.fst ∧ OChain link (nodeChain lw.1 rw.1 seed) ∧
      ((nodeChain lw.1 rw.1 seed).map Prod.fst).Nodup := by
  subst hlw
  subst hrw
  have hb := (nodeChain_ids (Walk.walk link (Walk.rm avail seed) seed .L).1
    (Walk.walk link (Walk.walk link (Walk.rm avail seed) seed .L).2 seed .R).1 seed).symm
  exact ⟨hb, nodeChain_ochain link hs _ _ seed (walk_linked ..) (walk_linked ..), hb ▸ (Walk.build_ok link hs avail seed hseed).nodup⟩

/-- **ports of a built node.** A port of a member of the node that is neither of the node's two end ports (where the
    left and the right walk stopped) leads by a link to a member whose facing port is again not an end port. -/
theorem build_inner (link : Link) (hs : Sym link) (avail : List Nat) (seed : Nat) (hseed : seed ∈ avail) (w : Nat)
    (hw : w ∈ (Walk.build link avail seed).1) (δ : Dir)
    (hL : (w, δ) ≠ lastPort (Walk.walk link (Walk.rm avail seed) seed .L).1 seed .L)
    (hR : (w, δ) ≠ lastPort (Walk.walk link (Walk.walk link (Walk.rm avail seed) seed .L).2 seed .R).1 seed .R) :
    ∃ w' d', link w δ = some (w', d') ∧ w' ∈ (Walk.build link avail seed).1 ∧
      (w', d'.flip) ≠ lastPort (Walk.walk link (Walk.rm avail seed) seed .L).1 seed .L ∧
      (w', d'.flip) ≠ lastPort (Walk.walk link (Walk.walk link (Walk.rm avail seed) seed .L).2 seed .R).1 seed .R := by
  obtain ⟨hb, hc, hnd⟩ := build_chain link hs avail seed hseed _ _ rfl rfl
  obtain ⟨c0, h0, hc0⟩ := nodeChain_head (Walk.walk link (Walk.rm avail seed) seed .L).1
    (Walk.walk link (Walk.walk link (Walk.rm avail seed) seed .L).2 seed .R).1 seed
  rw [hb, List.mem_map] at hw
  obtain ⟨a, ha, rfl⟩ := hw
  obtain ⟨i, ha'⟩ := List.mem_iff_getElem?.mp ha
  obtain ⟨j, b, d', hbj, hl, n1, n2⟩ := chain_inner link hs _ hc (nodup_fst_inj _ hnd) c0 _ h0 (nodeChain_last ..) i a ha' δ
    (hc0 ▸ hL) hR
  exact ⟨b.1, d', hl, hb ▸ List.mem_map_of_mem (List.mem_of_getElem? hbj), hc0 ▸ n1, n2⟩

theorem build_ports_ne (link : Link) (hs : Sym link) (avail : List Nat) (seed : Nat) (hseed : seed ∈ avail) :
    lastPort (Walk.walk link (Walk.rm avail seed) seed .L).1 seed .L ≠
      lastPort (Walk.walk link (Walk.walk link (Walk.rm avail seed) seed .L).2 seed .R).1 seed .R := by
  obtain ⟨_, _, hnd⟩ := build_chain link hs avail seed hseed _ _ rfl rfl
  obtain ⟨c0, h0, hc0⟩ := nodeChain_head (Walk.walk link (Walk.rm avail seed) seed .L).1
    (Walk.walk link (Walk.walk link (Walk.rm avail seed) seed .L).2 seed .R).1 seed
  have hm := nodeChain_last (Walk.walk link (Walk.rm avail seed) seed .L).1
    (Walk.walk link (Walk.walk link (Walk.rm avail seed) seed .L).2 seed .R).1 seed
  intro he
  rw [← hc0] at he
  -- both ends would carry the same id, so be the same entry, flipped
  rw [← nodup_fst_inj _ hnd 0 _ c0 _ h0 hm (congrArg Prod.fst he :), h0] at hm
  exact flip2_ne c0 (he.trans (Option.some.inj hm).symm)

end Compress
