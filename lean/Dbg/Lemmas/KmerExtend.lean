import Dbg.Lemmas.KmerBits
/-! `extend_left` / `extend_right` of the packed k-mer model refine the list operations. -/
namespace Kmer
variable {c : Cfg}

/-- the storage after the shift of `extend_right`, before the new base is written -/
def shiftedR (c : Cfg) (s : St c) : St c := if c.var then (s <<< 2) &&& ~~~(topMask c 0) else s <<< 2

theorem extendRight_eq (s : St c) (v : Nat) : extendRight c s v = setMut c (shiftedR c s) (c.K - 1) v := by
  unfold extendRight shiftedR; split <;> rfl

section
variable (hc : c.WF) (s : St c)
include hc

theorem shiftedR_bits (i : Nat) (hi : i < c.w) :
    (shiftedR c s).getLsbD i = (decide (2 ≤ i) && decide (i < 2 * c.K) && s.getLsbD (i - 2)) := by
  have hm := topMask_bits hc 0 i (Nat.zero_le _) hi
  unfold shiftedR
  cases hv : c.var
  · have := hc.hint hv
    simp only [Bool.false_eq_true, if_false, BitVec.getLsbD_shiftLeft, hi, decide_true, Bool.true_and]
    generalize s.getLsbD (i - 2) = x
    by_cases h2 : i < 2
    · simp [h2, Nat.not_le.mpr h2]
    · simp [h2, Nat.not_lt.mp h2, show i < 2 * c.K by omega]
  · simp only [if_true, BitVec.getLsbD_and, BitVec.getLsbD_not, BitVec.getLsbD_shiftLeft, hi, decide_true, Bool.true_and, hm]
    generalize s.getLsbD (i - 2) = x
    by_cases h2 : i < 2
    · simp [h2, Nat.not_le.mpr h2]
    · by_cases hk : 2 * c.K ≤ i
      · simp [hk, Nat.not_lt.mpr hk]
      · simp [h2, hk, Nat.not_lt.mp h2, Nat.not_le.mp hk]

theorem inv_shiftedR : Inv c (shiftedR c s) := by
  apply inv_of_bits
  intro i hi hw
  simp [shiftedR_bits hc s i hw, Nat.not_lt.mpr hi]

theorem get_extendRight (v q : Nat) (hq : q < c.K) (hv : v < 4) :
    get c (extendRight c s v) q = if q = c.K - 1 then v else get c s (q + 1) := by
  rw [extendRight_eq, get_setMut hc _ (c.K - 1) v q (by omega) hq hv]
  split
  · rfl
  next h =>
    have hq' : q + 1 < c.K := by omega
    have := addr_add (c := c) (q + 1) hq'
    have := hc.hw
    apply get_congr hc
    intro b hb
    rw [addr_succ q hq', shiftedR_bits hc s _ (by omega), Nat.add_right_comm, Nat.add_sub_cancel]
    simp [show addr c (q + 1) + b + 2 < 2 * c.K by omega]

theorem toSeq_extendRight (v : Nat) (hv : v < 4) :
    toSeq c (extendRight c s v) = KSpec.extendRight (toSeq c s) v := by
  have hK := hc.hK
  apply toSeq_eq _ _ (by simp [KSpec.extendRight, toSeq_length]; omega)
  intro q hq
  rw [get_extendRight hc s v q hq hv]
  unfold KSpec.extendRight
  split
  next h => subst h; rw [List.getElem_append_right (by simp [toSeq_length])]; simp [toSeq_length]
  next h => rw [List.getElem_append_left (by simp [toSeq_length]; omega)]; simp [toSeq]

/-- `extend_right` establishes the invariant whatever the input (it masks the unused bits) -/
theorem inv_extendRight (v : Nat) (hv : v < 4) : Inv c (extendRight c s v) := by
  have hK := hc.hK
  rw [extendRight_eq]
  exact inv_setMut _ _ v (by omega) hv (inv_shiftedR hc s)

/-- both variants of `extend_left` write `v` into lane 0 of `s >> 2` -/
theorem extendLeft_bits (v i : Nat) (hv : v < 4) (hi : i < c.w) :
    (extendLeft c s v).getLsbD i =
      if addr c 0 ≤ i ∧ i < addr c 0 + 2 then v.testBit (i - addr c 0) else s.getLsbD (i + 2) := by
  unfold extendLeft
  cases hvar : c.var
  · -- full width: lane 0 of `s >> 2` is empty, so or-ing `v` in writes it
    have hw := hc.hint hvar
    have ha := addr_add (c := c) 0 hc.hK
    simp only [Bool.false_eq_true, if_false, BitVec.getLsbD_or, BitVec.getLsbD_ushiftRight]
    rw [show (c.K - 1) * 2 = addr c 0 from rfl, ofNat_shift_bits c.w v _ i hv hi, Nat.add_comm 2 i]
    by_cases h : addr c 0 ≤ i
    · simp [h, show i < addr c 0 + 2 by omega, BitVec.getLsbD_of_ge s (i + 2) (by omega)]
    · simp [h]
  · simp only [if_true]
    rw [setMut_bits _ 0 v i hv hi, BitVec.getLsbD_ushiftRight, Nat.add_comm 2 i]

theorem get_extendLeft (v q : Nat) (hq : q < c.K) (hv : v < 4) :
    get c (extendLeft c s v) q = if q = 0 then v else get c s (q - 1) := by
  have hq1 := addr_lt hc q hq
  split
  next h =>
    subst h
    apply get_eq_of_bits hc _ _ _ hv
    intro b hb
    rw [extendLeft_bits hc s v _ hv (by omega), if_pos (by omega), Nat.add_sub_cancel_left]
  next h =>
    obtain ⟨p, rfl⟩ : ∃ p, q = p + 1 := ⟨q - 1, by omega⟩
    have := addr_add (c := c) 0 (by omega)
    have := addr_add (c := c) (p + 1) hq
    apply get_congr hc
    intro b hb
    rw [extendLeft_bits hc s v _ hv (by omega), if_neg (by omega), Nat.add_sub_cancel, addr_succ p hq, Nat.add_right_comm]

theorem toSeq_extendLeft (v : Nat) (hv : v < 4) :
    toSeq c (extendLeft c s v) = KSpec.extendLeft (toSeq c s) v := by
  have hK := hc.hK
  apply toSeq_eq _ _ (by simp [KSpec.extendLeft, toSeq_length]; omega)
  intro q hq
  rw [get_extendLeft hc s v q hq hv]
  unfold KSpec.extendLeft
  cases q with
  | zero => rfl
  | succ q => simp [toSeq, List.getElem_dropLast]

/-- the bits shifted down from beyond the used lanes must have been unset -/
theorem inv_extendLeft (v : Nat) (hv : v < 4) (hs : Inv c s) : Inv c (extendLeft c s v) := by
  apply inv_of_bits
  intro i hi hw
  have := addr_add (c := c) 0 hc.hK
  rw [extendLeft_bits hc s v i hv hw, if_neg (by omega)]
  exact hs _ (by omega)

end

end Kmer
