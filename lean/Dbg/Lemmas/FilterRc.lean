import Dbg.Lemmas.GraphProofs
/-! Unstranded filtering does not see which strand a read was given on: replacing reads by their reverse complements
    permutes the canonical observations (the extension bytes of palindromic k-mers excepted). -/
namespace Filter
open Compress (Seq Base Exts rc comp)

theorem mkE_rc (lo ro : Option Base) : (mkE lo ro).rc = mkE (ro.map comp) (lo.map comp) := by
  cases lo with
  | none =>
    cases ro with
    | none => decide
    | some r => revert r; decide
  | some l =>
    cases ro with
    | none => revert l; decide
    | some r => revert l r; decide

theorem rc_getElem? (s : Seq) (p q : Nat) (h : p + q + 1 = s.length) : (rc s)[q]? = (s[p]?).map comp :=
  List.getElem?_map_reverse comp s p q h

theorem win_rc (s : Seq) (K j : Nat) (hj : j + K ≤ s.length) : win (rc s) K j = rc (win s K (s.length - K - j)) :=
  win_rc_of_add s K (s.length - K - j) j (by omega)

theorem rawE_rc_of_add (s : Seq) (K i j : Nat) (h : i + j + K = s.length) : rawE (rc s) K j = (rawE s K i).rc := by
  unfold rawE
  rw [mkE_rc]
  congr 1
  · cases j with
    | zero => rw [if_pos rfl, List.getElem?_eq_none (by omega)]; rfl
    | succ j => rw [if_neg (Nat.succ_ne_zero j), Nat.add_sub_cancel, rc_getElem? s (i + K) j (by omega)]
  · cases i with
    | zero => rw [if_pos rfl, List.getElem?_eq_none (by rw [Compress.rc_length]; omega)]; rfl
    | succ i => rw [if_neg (Nat.succ_ne_zero i), Nat.add_sub_cancel, rc_getElem? s i (j + K) (by omega)]

theorem rawE_rc (s : Seq) (K j : Nat) (hj : j + K ≤ s.length) : rawE (rc s) K j = (rawE s K (s.length - K - j)).rc :=
  rawE_rc_of_add s K (s.length - K - j) j (by omega)

def palB (k : Seq) : Bool := decide (rc k = k)

def normOb (o : Seq × Exts × Nat) : Seq × Exts × Nat := (o.1, if palB o.1 then ⟨0⟩ else o.2.1, o.2.2)

theorem canonObs_rc (w : Seq) (E : Exts) (hE : E.val < 256) (lab : Nat) :
    normOb (canonObs false (rc w) E.rc lab) = normOb (canonObs false w E lab) := by
  rw [canonObs_eq, canonObs_eq]
  cases hc : Compress.canonSt false (rc w) with | mk k f
  by_cases hp : rc k = k
  · -- self-complementary: both keys equal, bytes blanked
    have hk : (Compress.canonSt false w).1 = k := (minRcFlip_rc_key w).symm.trans (congrArg Prod.fst hc)
    have hpal : palB k = true := decide_eq_true hp
    simp only [normOb, hk, hpal, if_true]
  · rw [canonSt_of_rc hp hc]
    cases f with
    | false => rfl
    | true => simp only [Bool.not_true, Bool.false_eq_true, if_true, if_false, E.rc_rc hE]

/-- the canonical observations of one read (empty boundary extensions, unstranded) -/
def obsRead (K : Nat) (s : Seq) (lab : Nat) : List (Seq × Exts × Nat) :=
  if s.length < K then [] else (List.range (s.length - K + 1)).map fun i => canonObs false (win s K i) (rawE s K i) lab

theorem map_range_rev {α} (f : Nat → α) (n : Nat) : (List.range n).map (fun j => f (n - 1 - j)) = ((List.range n).map f).reverse := by
  apply List.ext_getElem
  · simp
  · intro i h1 h2
    simp only [List.length_map, List.length_range] at h1
    simp only [List.getElem_map, List.getElem_range, List.getElem_reverse, List.length_map, List.length_range]

theorem obsRead_rc (K : Nat) (s : Seq) (lab : Nat) :
    (obsRead K (rc s) lab).map normOb = ((obsRead K s lab).map normOb).reverse := by
  unfold obsRead
  rw [Compress.rc_length]
  by_cases hl : s.length < K
  · simp [hl]
  · rw [if_neg hl, if_neg hl, List.map_map, List.map_map, ← map_range_rev]
    apply List.map_congr_left
    intro j hj
    rw [List.mem_range] at hj
    simp only [Function.comp]
    have h : s.length - K + 1 - 1 - j + j + K = s.length := by omega
    rw [win_rc_of_add s K _ j h, rawE_rc_of_add s K _ j h, canonObs_rc _ _ (rawE_lt _ _ _)]

/-! ### the sorted label set of `CountFilterSet` depends only on the set of labels -/

def insL (acc : List Nat) (x : Nat) : List Nat :=
  if acc.contains x then acc else (acc.takeWhile (· < x)) ++ [x] ++ (acc.dropWhile (· < x))

theorem tw_lt (acc : List Nat) (x : Nat) : ∀ y ∈ acc.takeWhile (· < x), y < x := by
  induction acc with
  | nil => intro y hy; simp at hy
  | cons a t ih =>
    intro y hy
    by_cases ha : a < x
    · rw [List.takeWhile_cons_of_pos (by simpa using ha)] at hy
      rcases List.mem_cons.mp hy with rfl | hy'
      · exact ha
      · exact ih y hy'
    · rw [List.takeWhile_cons_of_neg (by simpa using ha)] at hy; simp at hy

theorem dw_gt (acc : List Nat) (x : Nat) (h : acc.Pairwise (· < ·)) (hx : x ∉ acc) : ∀ y ∈ acc.dropWhile (· < x), x < y := by
  induction acc with
  | nil => intro y hy; simp at hy
  | cons a t ih =>
    intro y hy
    rw [List.pairwise_cons] at h
    by_cases ha : a < x
    · rw [List.dropWhile_cons_of_pos (by simpa using ha)] at hy
      exact ih h.2 (fun e => hx (List.mem_cons_of_mem _ e)) y hy
    · rw [List.dropWhile_cons_of_neg (by simpa using ha)] at hy
      have hax : a ≠ x := fun e => hx (by simp [e])
      rcases List.mem_cons.mp hy with rfl | hy'
      · omega
      · have := h.1 y hy'; omega

theorem insL_spec (acc : List Nat) (x : Nat) (h : acc.Pairwise (· < ·)) :
    (insL acc x).Pairwise (· < ·) ∧ ∀ y, y ∈ insL acc x ↔ y = x ∨ y ∈ acc := by
  unfold insL
  by_cases hc : acc.contains x = true
  · rw [if_pos hc]
    have : x ∈ acc := by simpa using hc
    exact ⟨h, fun y => ⟨fun hy => Or.inr hy, fun hy => by rcases hy with rfl | hy; exact this; exact hy⟩⟩
  · rw [if_neg hc]
    have hx : x ∉ acc := by simpa using hc
    have htw := tw_lt acc x
    have hdw := dw_gt acc x h hx
    constructor
    · rw [List.append_assoc, List.pairwise_append]
      refine ⟨h.sublist (List.takeWhile_sublist _), ?_, ?_⟩
      · rw [List.singleton_append, List.pairwise_cons]
        exact ⟨hdw, h.sublist (List.dropWhile_sublist _)⟩
      · intro a ha b hb
        rcases List.mem_append.mp hb with hb1 | hb2
        · simp only [List.mem_cons, List.mem_nil_iff, or_false] at hb1; subst hb1; exact htw a ha
        · have := htw a ha; have := hdw b hb2; omega
    · intro y
      simp only [List.mem_append, List.mem_cons, List.mem_nil_iff, or_false]
      constructor
      · rintro ((h1 | h1) | h1)
        · exact Or.inr ((List.takeWhile_sublist _).subset h1)
        · exact Or.inl h1
        · exact Or.inr ((List.dropWhile_sublist _).subset h1)
      · rintro (h1 | h1)
        · exact Or.inl (Or.inr h1)
        · have := List.takeWhile_append_dropWhile (p := (· < x)) (l := acc)
          rw [← this] at h1
          rcases List.mem_append.mp h1 with h2 | h2
          · exact Or.inl (Or.inl h2)
          · exact Or.inr h2

theorem sortedLabels_spec (labels : List Nat) (acc : List Nat) (h : acc.Pairwise (· < ·)) :
    (labels.foldl insL acc).Pairwise (· < ·) ∧ ∀ y, y ∈ labels.foldl insL acc ↔ y ∈ acc ∨ y ∈ labels := by
  induction labels generalizing acc with
  | nil => exact ⟨h, by simp⟩
  | cons x t ih =>
    obtain ⟨p, m⟩ := insL_spec acc x h
    obtain ⟨p', m'⟩ := ih (insL acc x) p
    refine ⟨p', fun y => ?_⟩
    rw [List.foldl_cons, m', m, List.mem_cons, or_comm (a := y = x), or_assoc]

theorem sortedLabels_perm (l1 l2 : List Nat) (hp : l1.Perm l2) : l1.foldl insL [] = l2.foldl insL [] := by
  obtain ⟨p1, m1⟩ := sortedLabels_spec l1 [] List.Pairwise.nil
  obtain ⟨p2, m2⟩ := sortedLabels_spec l2 [] List.Pairwise.nil
  apply asc_unique_of Nat.lt_irrefl Nat.lt_trans _ _ p1 p2
  intro x
  rw [m1, m2]
  simp only [List.not_mem_nil, false_or]
  exact hp.mem_iff

theorem summarize_exts_perm (sm : Summarizer) (l1 l2 : List (Exts × Nat)) (hp : (l1.map (·.1.val)).Perm (l2.map (·.1.val))) :
    (summarize sm l1).2.1 = (summarize sm l2).2.1 := by
  have e : ∀ l : List (Exts × Nat), l.foldl (fun a o => a ||| o.1.val) 0 = (l.map (·.1.val)).foldl (· ||| ·) 0 :=
    fun l => List.foldl_map.symm
  rw [summarize_exts, summarize_exts, e, e]
  congr 1
  apply List.Perm.foldl_eq' hp
  intro x _ y _ z
  rw [Nat.or_assoc, Nat.or_comm x y, ← Nat.or_assoc]

theorem summarize_data_perm (sm : Summarizer) (l1 l2 : List (Exts × Nat)) (hp : (l1.map (·.2)).Perm (l2.map (·.2))) :
    (summarize sm l1).1 = (summarize sm l2).1 ∧ (summarize sm l1).2.2 = (summarize sm l2).2.2 := by
  have hl : l1.length = l2.length := by simpa using hp.length_eq
  cases sm with
  | count n => simp only [summarize, hl]; exact ⟨trivial, trivial⟩
  | set n =>
    simp only [summarize, hl]
    refine ⟨trivial, ?_⟩
    exact sortedLabels_perm _ _ hp

theorem normOb_lab (o : Seq × Exts × Nat) : (normOb o).2.2 = o.2.2 := rfl

theorem filter_norm (obs : List (Seq × Exts × Nat)) (k : Seq) :
    (obs.map normOb).filter (fun o => o.1 == k) = (obs.filter fun o => o.1 == k).map normOb := by
  rw [List.filter_map]; rfl

theorem distinctKeys_perm (obs1 obs2 : List Ob) (h : (obs1.map (·.1)).Perm (obs2.map (·.1))) :
    distinctKeys obs1 = distinctKeys obs2 :=
  distinctKeys_eq _ _ (distinctKeys_spec obs2).1 fun k =>
    (((distinctKeys_spec obs2).2 k).trans (List.mem_map.symm.trans h.mem_iff.symm)).trans List.mem_map

/-- the observations of a key that is not self-complementary are not touched by the blanking -/
theorem map_normOb_filter (obs : List Ob) (k : Seq) (hk : palB k = false) :
    (obs.filter fun o => o.1 == k).map normOb = obs.filter fun o => o.1 == k :=
  (List.map_congr_left fun o ho => by
    have hk' : o.1 = k := eq_of_beq (List.mem_filter.mp ho).2
    show normOb o = id o
    rw [normOb, hk', hk]; subst hk'; rfl).trans (List.map_id _)

theorem table_perm_invariant (sm : Summarizer) (obs1 obs2 : List (Seq × Exts × Nat))
    (hp : (obs1.map normOb).Perm (obs2.map normOb)) :
    distinctKeys obs1 = distinctKeys obs2 ∧
    (∀ k, (entryOf sm obs1 k).map (fun e => (e.key, e.data)) = (entryOf sm obs2 k).map (fun e => (e.key, e.data))) ∧
    (∀ k, palB k = false → entryOf sm obs1 k = entryOf sm obs2 k) := by
  have hfil : ∀ k, ((obs1.filter fun o => o.1 == k).map normOb).Perm ((obs2.filter fun o => o.1 == k).map normOb) := by
    intro k
    rw [← filter_norm, ← filter_norm]
    exact hp.filter _
  have hlab : ∀ k, (((obs1.filter fun o => o.1 == k).map fun o => (o.2.1, o.2.2)).map (·.2)).Perm
      (((obs2.filter fun o => o.1 == k).map fun o => (o.2.1, o.2.2)).map (·.2)) := by
    intro k
    have := (hfil k).map (fun o => o.2.2)
    rw [List.map_map, List.map_map] at this ⊢
    exact this
  have hdat := fun k => summarize_data_perm sm _ _ (hlab k)
  refine ⟨?_, ?_, ?_⟩
  · -- blanking keeps the keys
    have := hp.map (·.1)
    rw [List.map_map, List.map_map] at this
    exact distinctKeys_perm obs1 obs2 this
  · intro k
    unfold entryOf
    simp only
    rw [(hdat k).1, (hdat k).2]
    split <;> rfl
  · intro k hk
    have hperm : (obs1.filter fun o => o.1 == k).Perm (obs2.filter fun o => o.1 == k) := by
      have := hfil k; rwa [map_normOb_filter _ k hk, map_normOb_filter _ k hk] at this
    have hext := summarize_exts_perm sm ((obs1.filter fun o => o.1 == k).map fun o => (o.2.1, o.2.2))
      ((obs2.filter fun o => o.1 == k).map fun o => (o.2.1, o.2.2)) (by
        rw [List.map_map, List.map_map]; exact hperm.map _)
    unfold entryOf
    simp only
    rw [(hdat k).1, (hdat k).2, hext]

/-- replace the reads selected by `m` (by position) with their reverse complements -/
def flipReads (m : Nat → Bool) (k : Nat) : List (Seq × Exts × Nat) → List (Seq × Exts × Nat)
  | [] => []
  | r :: rest => (if m k then (rc r.1, r.2.1, r.2.2) else r) :: flipReads m (k + 1) rest

theorem observations_eq (K : Nat) (reads : List (Seq × Exts × Nat)) (hb : NoBoundary reads) :
    observations K reads false = reads.flatMap fun r => obsRead K r.1 r.2.2 :=
  observations_plain K reads hb false

theorem flip_noBoundary (m : Nat → Bool) (reads : List (Seq × Exts × Nat)) (hb : NoBoundary reads) :
    ∀ k, NoBoundary (flipReads m k reads) := by
  induction reads with
  | nil => intro k r hr; cases hr
  | cons r rest ih =>
    intro k x hx
    unfold flipReads at hx
    rcases List.mem_cons.mp hx with rfl | hx'
    · split
      · exact hb r (by simp)
      · exact hb r (by simp)
    · exact ih (fun y hy => hb y (by simp [hy])) (k + 1) x hx'

theorem flip_obs_perm (K : Nat) (m : Nat → Bool) (reads : List (Seq × Exts × Nat)) :
    ∀ k, (((flipReads m k reads).flatMap fun r => obsRead K r.1 r.2.2).map normOb).Perm
      ((reads.flatMap fun r => obsRead K r.1 r.2.2).map normOb) := by
  induction reads with
  | nil => intro k; exact List.Perm.refl _
  | cons r rest ih =>
    intro k
    unfold flipReads
    rw [List.flatMap_cons, List.flatMap_cons, List.map_append, List.map_append]
    apply List.Perm.append _ (ih (k + 1))
    by_cases hm : m k = true
    · rw [if_pos hm]
      show ((obsRead K (rc r.1) r.2.2).map normOb).Perm _
      rw [obsRead_rc]
      exact List.reverse_perm _
    · rw [if_neg hm]

/-- **the k-mer table is strand-symmetric** (unstranded, empty boundary extensions): replacing any subset of the reads by
    their reverse complements leaves the keys and payloads of the table unchanged, and the extension set of every k-mer that
    is not its own reverse complement -/
theorem refTable_rc_invariant (K : Nat) (reads : List (Seq × Exts × Nat)) (hb : NoBoundary reads) (sm : Summarizer)
    (m : Nat → Bool) :
    (refTable K (flipReads m 0 reads) sm false).map (fun e => (e.key, e.data)) = (refTable K reads sm false).map (fun e => (e.key, e.data)) ∧
    ∀ e ∈ refTable K (flipReads m 0 reads) sm false, palB e.key = false → e ∈ refTable K reads sm false := by
  have hb' := flip_noBoundary m reads hb 0
  have hperm : ((observations K (flipReads m 0 reads) false).map normOb).Perm ((observations K reads false).map normOb) := by
    rw [observations_eq K _ hb', observations_eq K _ hb]
    exact flip_obs_perm K m reads 0
  obtain ⟨hkeys, hdat, hext⟩ := table_perm_invariant sm _ _ hperm
  rw [refTable_eq, refTable_eq, hkeys]
  constructor
  · rw [List.map_filterMap, List.map_filterMap]
    congr 1
    funext k
    exact hdat k
  · intro e he hp
    rw [List.mem_filterMap] at he ⊢
    obtain ⟨k, hk, hek⟩ := he
    exact ⟨k, hk, by rw [← hext k ((entryOf_some hek).1 ▸ hp)]; exact hek⟩

end Filter
