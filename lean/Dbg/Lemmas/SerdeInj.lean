import Dbg.Model.Serde
/-! Unique readability of the serialised texts: every encoder is *prefix-decodable* - if two encodings, each followed by
    text that does not start with a digit, are equal, then the values and the following texts are equal. -/
namespace Serde

/-- the text does not start with a digit (all separators and closers qualify) -/
def NDS (r : List Char) : Prop := ∀ c, r.head? = some c → c.isDigit = false

theorem nds_nil : NDS [] := fun _ h => nomatch h
theorem nds_cons {c : Char} {r : List Char} (h : c.isDigit = false) : NDS (c :: r) :=
  fun _ h' => Option.some.inj h' ▸ h

theorem nds_lit (s : String) (r : List Char) (h : (s.toList.head?.map Char.isDigit) = some false) : NDS (lit s ++ r) := by
  unfold lit
  cases hs : s.toList with
  | nil => rw [hs] at h; cases h
  | cons c t => rw [hs] at h; exact nds_cons (Option.some.inj h)

/-- prefix-decodable encoder whose texts do not start with `]` (so that `[]` and `[x…` differ at the second character) -/
structure PF {α : Type} (e : α → List Char) : Prop where
  inj : ∀ a b r1 r2, NDS r1 → NDS r2 → e a ++ r1 = e b ++ r2 → a = b ∧ r1 = r2
  head : ∀ a, ∃ c t, e a = c :: t ∧ c ≠ ']'

theorem PF.injective {α : Type} {e : α → List Char} (h : PF e) {a b : α} (hab : e a = e b) : a = b :=
  (h.inj a b [] [] nds_nil nds_nil (by rw [List.append_nil, List.append_nil, hab])).1

/-- Reading one field of an object: `q` is the text that follows the value, i.e. the next key or the closing brace. -/
theorem PF.field {α : Type} {e : α → List Char} (h : PF e) {q : String} (hq : (q.toList.head?.map Char.isDigit) = some false)
    {a b : α} {k1 k2 : List Char} (hh : e a ++ (lit q ++ k1) = e b ++ (lit q ++ k2)) : a = b ∧ k1 = k2 := by
  obtain ⟨e1, e2⟩ := h.inj a b _ _ (nds_lit q k1 hq) (nds_lit q k2 hq) hh
  exact ⟨e1, List.append_cancel_left e2⟩

theorem digits_nil {d r r' : List Char} (hd : ∀ c ∈ d, c.isDigit = true) (hn : NDS r') (h : r' = d ++ r) : d = [] := by
  cases d with
  | nil => rfl
  | cons c t =>
    have := hn c (by rw [h]; rfl)
    rw [hd c List.mem_cons_self] at this
    cases this

theorem digits_split (l1 l2 r1 r2 : List Char) (h1 : ∀ c ∈ l1, c.isDigit = true) (h2 : ∀ c ∈ l2, c.isDigit = true)
    (n1 : NDS r1) (n2 : NDS r2) (h : l1 ++ r1 = l2 ++ r2) : l1 = l2 ∧ r1 = r2 := by
  -- one of the digit strings is a prefix of the other; the surplus is empty, since it would start `r1` or `r2`
  rcases List.append_eq_append_iff.mp h with ⟨d, rfl, e⟩ | ⟨d, rfl, e⟩
  · obtain rfl := digits_nil (fun c hc => h2 c (List.mem_append_right _ hc)) n1 e
    exact ⟨(List.append_nil _).symm, e⟩
  · obtain rfl := digits_nil (fun c hc => h1 c (List.mem_append_right _ hc)) n2 e
    exact ⟨List.append_nil _, e.symm⟩

theorem num_digits (n : Nat) : ∀ c ∈ num n, c.isDigit = true := fun _ hc => Nat.isDigit_of_mem_toDigits (by decide) (by decide) hc

theorem num_inj {m n : Nat} (h : num m = num n) : m = n := by
  have := congrArg (fun l => Nat.ofDigitChars 10 l 0) h
  simpa [num, Nat.ofDigitChars_ten_toDigits] using this

theorem pf_num : PF num where
  inj := by
    intro a b r1 r2 n1 n2 h
    obtain ⟨e1, e2⟩ := digits_split _ _ _ _ (num_digits a) (num_digits b) n1 n2 h
    exact ⟨num_inj e1, e2⟩
  head := by
    intro a
    obtain ⟨c, t, hn⟩ := List.exists_cons_of_ne_nil (Nat.toDigits_ne_nil (b := 10) (n := a))
    refine ⟨c, t, hn, fun hc => ?_⟩
    have := num_digits a c (by rw [num, hn]; exact List.mem_cons_self)
    rw [hc] at this
    cases this

theorem pf_comp {α β : Type} {e : β → List Char} (h : PF e) (f : α → β) (hf : ∀ a b, f a = f b → a = b) : PF (fun a => e (f a)) where
  inj := by
    intro a b r1 r2 n1 n2 hh
    obtain ⟨e1, e2⟩ := h.inj _ _ _ _ n1 n2 hh
    exact ⟨hf _ _ e1, e2⟩
  head := fun a => h.head (f a)

theorem nds_arrTail {α : Type} (e : α → List Char) (l : List α) (r : List Char) : NDS (arrTail e l ++ ']' :: r) := by
  cases l with
  | nil => exact nds_cons (by decide)
  | cons x y => exact nds_cons (by decide)

theorem arrTail_inj {α : Type} {e : α → List Char} (h : PF e) : ∀ (l1 l2 : List α) (r1 r2 : List Char),
    arrTail e l1 ++ ']' :: r1 = arrTail e l2 ++ ']' :: r2 → l1 = l2 ∧ r1 = r2
  | [], [], _, _, hh => ⟨rfl, (List.cons.inj hh).2⟩
  | [], _ :: _, _, _, hh => absurd (List.cons.inj hh).1 (by decide)
  | _ :: _, [], _, _, hh => absurd (List.cons.inj hh).1 (by decide)
  | a :: t, b :: u, r1, r2, hh => by
    rw [arrTail, arrTail, List.cons_append, List.cons_append, List.append_assoc, List.append_assoc] at hh
    obtain ⟨e1, e2⟩ := h.inj a b _ _ (nds_arrTail e t r1) (nds_arrTail e u r2) (List.cons.inj hh).2
    obtain ⟨e3, e4⟩ := arrTail_inj h t u r1 r2 e2
    exact ⟨by rw [e1, e3], e4⟩

/-- after its opening bracket a non-empty array reads like the tail of an array after its comma -/
theorem arr_cons_append {α : Type} (e : α → List Char) (a : α) (t : List α) (r : List Char) :
    arr e (a :: t) ++ r = '[' :: (arrTail e (a :: t) ++ ']' :: r).tail := by
  simp only [arr, arrTail, List.cons_append, List.append_assoc, List.nil_append, List.tail_cons]

theorem pf_arr {α : Type} {e : α → List Char} (h : PF e) : PF (arr e) where
  inj := by
    intro l1 l2 r1 r2 _ _ hh
    cases l1 with
    | nil =>
      cases l2 with
      | nil => exact ⟨rfl, List.append_cancel_left hh⟩
      | cons b u =>
        -- `[]` against `[x…`: `x` does not start with `]`
        obtain ⟨c, t, hc, hne⟩ := h.head b
        rw [arr_cons_append, arrTail, hc] at hh
        exact absurd (List.cons.inj (List.cons.inj hh).2).1.symm hne
    | cons a t =>
      cases l2 with
      | nil =>
        obtain ⟨c, t', hc, hne⟩ := h.head a
        rw [arr_cons_append, arrTail, hc] at hh
        exact absurd (List.cons.inj (List.cons.inj hh).2).1 hne
      | cons b u =>
        rw [arr_cons_append, arr_cons_append] at hh
        exact arrTail_inj h (a :: t) (b :: u) r1 r2 (congrArg (',' :: ·) (List.cons.inj hh).2)
  head := by
    intro l
    cases l with
    | nil => exact ⟨'[', [']'], rfl, by decide⟩
    | cons a t => exact ⟨'[', _, rfl, by decide⟩

theorem pf_bool : PF bool where
  inj := by
    intro a b r1 r2 _ _ hh
    cases a <;> cases b
    · exact ⟨rfl, List.append_cancel_left hh⟩
    · exact absurd (List.cons.inj hh).1 (by decide)
    · exact absurd (List.cons.inj hh).1 (by decide)
    · exact ⟨rfl, List.append_cancel_left hh⟩
  head := by
    intro a
    cases a
    · exact ⟨'f', ['a', 'l', 's', 'e'], rfl, by decide⟩
    · exact ⟨'t', ['r', 'u', 'e'], rfl, by decide⟩

end Serde
