import Dbg.Lemmas.MspProofs
import Dbg.Spec.C07
/-! From the loop invariant on the reversed `min_positions` to the forward interval list. -/
namespace Msp

/-- forward-order version of `AccOK`; `n` = number of k-mers -/
def FwdOK (sc : Nat → Nat) (d n : Nat) : List (Nat × MinPos) → Prop
  | [] => False
  | [(s, mn)] => IvOK sc d s (n - 1) mn
  | (s, mn) :: (s', mn') :: rest =>
    IvOK sc d s (s' - 1) mn ∧ s < s' ∧ (mn.pos < s' ∨ sc (s' + d) < mn.val) ∧ FwdOK sc d n ((s', mn') :: rest)

theorem fwd_of_acc (sc : Nat → Nat) (d n : Nat) :
    ∀ (acc : List (Nat × MinPos)) (x : Nat × MinPos) (suffix : List (Nat × MinPos)) (cur : Nat),
      AccOK sc d cur (x :: acc) →
      (IvOK sc d x.1 cur x.2 → FwdOK sc d n (x :: suffix)) →
      FwdOK sc d n (acc.reverse ++ x :: suffix) ∧ (acc.reverse ++ x :: suffix).head?.map (·.1) = some 0 := by
  intro acc
  induction acc with
  | nil =>
    intro x suffix cur h hk
    obtain ⟨s, mn⟩ := x
    have h' : s = 0 ∧ IvOK sc d s cur mn := h
    exact ⟨by simpa using hk h'.2, by simp [h'.1]⟩
  | cons y acc ih =>
    intro x suffix cur h hk
    obtain ⟨s, mn⟩ := x
    obtain ⟨s', mn'⟩ := y
    have h' : IvOK sc d s cur mn ∧ s' < s ∧ (mn'.pos < s ∨ sc (s + d) < mn'.val) ∧
        AccOK sc d (s - 1) ((s', mn') :: acc) := h
    obtain ⟨h1, h2, h3, h4⟩ := h'
    have := ih (s', mn') ((s, mn) :: suffix) (s - 1) h4 (by
      intro hiv
      exact ⟨hiv, h2, h3, hk h1⟩)
    simpa using this

theorem minPositions_fwd (sc : Nat → Nat) (d n : Nat) (hn : 1 ≤ n) :
    FwdOK sc d n (minPositions sc d n).reverse ∧ (minPositions sc d n).reverse.head?.map (·.1) = some 0 := by
  obtain ⟨s, mn, rest, e, h⟩ := minPositions_ok sc d n hn
  rw [e]
  have := fwd_of_acc sc d n rest (s, mn) [] (n - 1) h (fun hiv => hiv)
  simpa using this

theorem FwdOK.start_le {sc : Nat → Nat} {d n : Nat} :
    ∀ {L : List (Nat × MinPos)} {s : Nat} {mn : MinPos}, FwdOK sc d n ((s, mn) :: L) → s ≤ n - 1
  | [], _, _, h => IvOK.hse h
  | (_, _) :: _, _, _, h => by
    obtain ⟨_, h2, _, h4⟩ := h
    have := FwdOK.start_le h4
    omega

theorem ivValid_of_IvOK (seq : Array Compress.Base) {sc : Nat → Nat} {k p d s e len : Nat} {mn : MinPos}
    (hd : d + p = k) (h : IvOK sc d s e mn) (hlen : len + s = e + k) :
    IvValid seq sc k p ⟨s, len, mn.pos, window seq p mn.pos⟩ := by
  obtain ⟨hval, hse, lo, hi, hmin⟩ := h
  have hb : k ≤ len ∧ len + p ≤ 2 * k ∧ s + len ≤ mn.pos + k ∧ mn.pos + p ≤ s + k := by omega
  refine ⟨hb.1, Nat.le_sub_of_add_le hb.2.1, rfl, Nat.sub_le_of_le_add hb.2.2.1, hb.2.2.2, fun q hq1 hq2 => ?_⟩
  rw [← hval]
  exact hmin q hq2 (by change q < s + len - p + 1 at hq1; omega)

/-- the narrowing casts of `scan` (`as u32`, `as u16`) lose nothing on such an entry when the sequence is shorter than
    2^32 and `2k - p` fits the length field -/
theorem narrow_id {sc : Nat → Nat} {k p d s e len m : Nat} {mn : MinPos} (h : IvOK sc d s e mn) (hd : d + p = k)
    (hlen : len + s = e + k) (he : e + k ≤ m) (hm : m < 2 ^ 32) (h16 : 2 * k ≤ 65535 + p) :
    s % startMod = s ∧ len % lenMod = len ∧ mn.pos % startMod = mn.pos := by
  obtain ⟨_, hse, lo, hi, _⟩ := h
  have e32 : startMod = 2 ^ 32 := rfl
  have e16 : lenMod = 65536 := rfl
  have hb : s < startMod ∧ len < lenMod ∧ mn.pos < startMod := by omega
  exact ⟨Nat.mod_eq_of_lt hb.1, Nat.mod_eq_of_lt hb.2.1, Nat.mod_eq_of_lt hb.2.2⟩

theorem chainValid_cons {sc : Nat → Nat} {k p m : Nat} (iv : Iv) {l : List Iv} {s' : Nat}
    (hl : l.head?.map (·.start) = some s') :
    ChainValid sc k p m (iv :: l) ↔
      iv.start < s' ∧ s' + k - 1 = iv.start + iv.len ∧ (iv.mpos < s' ∨ sc (s' + k - p) < sc iv.mpos) ∧
        ChainValid sc k p m l := by
  cases l with
  | nil => cases hl
  | cons iv' rest =>
    simp only [List.head?_cons, Option.map_some, Option.some.injEq] at hl
    subst hl
    rfl

theorem chain_end_le (sc : Nat → Nat) (k p m : Nat) (l : List Iv) :
    ChainValid sc k p m l → (∀ iv ∈ l, k ≤ iv.len) → ∀ iv ∈ l, iv.start + iv.len ≤ m := by
  fun_induction ChainValid sc k p m l with
  | case1 => exact fun h => h.elim
  | case2 iv =>
    intro h _ x hx
    rw [List.mem_singleton] at hx
    subst hx
    exact Nat.le_of_eq h
  | case3 iv iv' rest ih =>
    intro ⟨_, c2, _, c4⟩ hl x hx
    have ih' := ih c4 (fun y hy => hl y (List.mem_cons_of_mem _ hy))
    rcases List.mem_cons.mp hx with rfl | hx
    · have := ih' iv' (List.mem_cons_self ..)
      have := hl iv' (List.mem_cons_of_mem _ (List.mem_cons_self ..))
      omega
    · exact ih' x hx

end Msp
