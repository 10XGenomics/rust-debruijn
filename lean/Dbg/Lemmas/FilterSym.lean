import Dbg.Lemmas.FilterOcc
/-! Pruning (`remove_censored_exts`) and re-ordering (the hash map's index order) keep well-formedness and reciprocity,
    so tables from reads satisfy the hypotheses of the compression theorems. -/
namespace Filter
open Compress (Seq Base Exts rc minRcFlip Entry extend canonSt condFlip recip findId WF ExtSym)
open Walk (Dir)

theorem extTarget_eq (st : Bool) (k : Seq) (b : Base) (d : Dir) : extTarget st k b d = (canonSt st (extend k b d)).1 := by
  unfold extTarget canonSt; cases st <;> rfl

theorem keepMap_getElem? {D : Type} (T : List (Entry D)) (keep : Entry D → Dir → Base → Bool) (x : Nat) (e1 : Entry D)
    (h : (T.map fun en => { en with exts := keepBits en.exts (keep en) })[x]? = some e1) :
    ∃ e0, T[x]? = some e0 ∧ e1.key = e0.key ∧ e1.data = e0.data ∧ e1.exts = keepBits e0.exts (keep e0) := by
  rw [List.getElem?_map] at h
  cases h0 : T[x]? with
  | none => rw [h0] at h; cases h
  | some e0 => rw [h0] at h; cases h; exact ⟨e0, rfl, rfl, rfl, rfl⟩

theorem removeCensored_getElem? {D : Type} (st : Bool) (T : List (Entry D)) (x : Nat) (e1 : Entry D)
    (h : (removeCensoredExts st T)[x]? = some e1) :
    ∃ e0, T[x]? = some e0 ∧ e1.key = e0.key ∧ e1.data = e0.data ∧
      e1.exts = keepBits e0.exts (fun d b => (T.map (·.key)).contains (extTarget st e0.key b d)) :=
  keepMap_getElem? T _ x e1 h

theorem findId_removeCensored {D : Type} (st : Bool) (T : List (Entry D)) (k : Seq) :
    findId (removeCensoredExts st T) k = findId T k := by
  unfold findId removeCensoredExts
  rw [List.findIdx?_map]
  rfl

theorem wf_removeCensored {D : Type} (st : Bool) (T : List (Entry D)) (K : Nat) (wf : WF T K st) : WF (removeCensoredExts st T) K st := by
  refine ⟨wf.kpos, ?_, ?_, ?_, ?_⟩
  · intro x e h
    obtain ⟨e0, h0, hk, _, _⟩ := removeCensored_getElem? st T x e h
    rw [hk]; exact wf.len x e0 h0
  · intro x y ex ey hx hy hk
    obtain ⟨e0, h0, hk0, _, _⟩ := removeCensored_getElem? st T x ex hx
    obtain ⟨e1, h1, hk1, _, _⟩ := removeCensored_getElem? st T y ey hy
    exact wf.distinct x y e0 e1 h0 h1 (by rw [← hk0, ← hk1, hk])
  · intro hst x e h
    obtain ⟨e0, h0, hk, _, _⟩ := removeCensored_getElem? st T x e h
    rw [hk]; exact wf.canon hst x e0 h0
  · intro x e h
    obtain ⟨e0, _, _, _, he⟩ := removeCensored_getElem? st T x e h
    rw [he]; exact keepBits_lt _ _

theorem wf_perm {D : Type} (st : Bool) (T1 T2 : List (Entry D)) (K : Nat) (hp : T2.Perm T1) (wf : WF T1 K st) : WF T2 K st := by
  have hmem : ∀ e, e ∈ T2 → ∃ x, T1[x]? = some e := fun e he => List.mem_iff_getElem?.mp (hp.mem_iff.mp he)
  have hnd2 : (T2.map (·.key)).Nodup := (hp.map _).nodup_iff.mpr wf.keys_nodup
  refine ⟨wf.kpos, ?_, ?_, ?_, ?_⟩
  · intro x e h
    obtain ⟨x1, h1⟩ := hmem e (List.mem_of_getElem? h)
    exact wf.len x1 e h1
  · intro x y ex ey hx hy hk
    apply (List.getElem?_inj (by simpa using (List.getElem?_eq_some_iff.mp hx).1) hnd2).mp
    rw [List.getElem?_map, List.getElem?_map, hx, hy, Option.map_some, Option.map_some, hk]
  · intro hst x e h
    obtain ⟨x1, h1⟩ := hmem e (List.mem_of_getElem? h)
    exact wf.canon hst x1 e h1
  · intro x e h
    obtain ⟨x1, h1⟩ := hmem e (List.mem_of_getElem? h)
    exact wf.ext8 x1 e h1

/-- **`remove_censored_exts` is exact**: same keys and payloads, and a recorded extension survives iff its target
    is a valid k-mer -/
theorem removeCensored_exact {D : Type} (st : Bool) (T : List (Entry D)) :
    (removeCensoredExts st T).length = T.length ∧
    ∀ (x : Nat) (e1 : Entry D), (removeCensoredExts st T)[x]? = some e1 → ∃ e0 : Entry D, T[x]? = some e0 ∧ e1.key = e0.key ∧ e1.data = e0.data ∧
      e1.exts.val < 256 ∧
      ∀ d b, has e1.exts d b ↔ has e0.exts d b ∧ extTarget st e0.key b d ∈ T.map (·.key) := by
  refine ⟨by simp [removeCensoredExts], fun x e1 h => ?_⟩
  obtain ⟨e0, h0, hk, hd, he⟩ := removeCensored_getElem? st T x e1 h
  refine ⟨e0, h0, hk, hd, by rw [he]; exact keepBits_lt _ _, fun d b => ?_⟩
  rw [he, has_keepBits]
  simp only [List.contains_eq_mem, decide_eq_true_eq]

/-- an entry of a pruned table comes from the entry of the table with its key, and keeps exactly the extensions whose
    target is a key -/
theorem pruned_of_mem {D : Type} (st : Bool) (T : List (Entry D)) (e1 : Entry D) (h : e1 ∈ removeCensoredExts st T) :
    ∃ e0 ∈ T, e1.key = e0.key ∧ e1.data = e0.data ∧ e1.exts.val < 256 ∧
      ∀ d b, has e1.exts d b ↔ has e0.exts d b ∧ extTarget st e0.key b d ∈ T.map (·.key) := by
  obtain ⟨i, hi⟩ := List.mem_iff_getElem?.mp h
  obtain ⟨e0, h0, r⟩ := (removeCensored_exact st T).2 i e1 hi
  exact ⟨e0, List.mem_of_getElem? h0, r⟩

/-- **`remove_censored_exts_sharded` is exact**: an extension is dropped iff its target is a k-mer that was seen
    (`all_kmers`) but is not valid -/
theorem removeCensoredSharded_exact {D : Type} (st : Bool) (T : List (Entry D)) (all : List Seq) :
    (removeCensoredExtsSharded st T all).length = T.length ∧
    ∀ (x : Nat) (e1 : Entry D), (removeCensoredExtsSharded st T all)[x]? = some e1 → ∃ e0 : Entry D, T[x]? = some e0 ∧ e1.key = e0.key ∧ e1.data = e0.data ∧
      ∀ d b, has e1.exts d b ↔ has e0.exts d b ∧
        ¬ (extTarget st e0.key b d ∉ T.map (·.key) ∧ extTarget st e0.key b d ∈ all) := by
  refine ⟨by simp [removeCensoredExtsSharded], fun x e1 h => ?_⟩
  obtain ⟨e0, h0, hk, hd, he⟩ := keepMap_getElem? T _ x e1 h
  refine ⟨e0, h0, hk, hd, fun d b => ?_⟩
  rw [he, has_keepBits]
  simp only [List.contains_eq_mem]
  rw [Bool.not_eq_true', ← Bool.not_eq_true, Bool.and_eq_true, Bool.not_eq_true', decide_eq_false_iff_not, decide_eq_true_eq]

theorem minRcFlip_rc_key (x : Seq) : (minRcFlip (rc x)).1 = (minRcFlip x).1 := by
  unfold minRcFlip
  rw [Compress.rc_rc]
  rcases seq_tri x (rc x) with h | h | h
  · rw [if_pos h, if_neg (List.lt_asymm h)]
  · rw [← h]
  · rw [if_neg (List.lt_asymm h), if_pos h]

theorem canonSt_key_self {st : Bool} {x : Seq} (hc : st = false → ¬ (rc x < x)) : (canonSt st x).1 = x := by
  rcases canonSt_cases st x with ⟨h, _⟩ | ⟨hst, hlt, h⟩
  · rw [h]
  · rw [h]
    rcases seq_tri x (rc x) with h' | h' | h'
    · exact absurd h' hlt
    · exact h'.symm
    · exact absurd h' (hc hst)

/-- stepping back with the reciprocal base returns to the canonical k-mer one came from (whether or not it is a palindrome) -/
theorem canon_back_key {st : Bool} {x : Seq} {b : Base} {d : Dir} (hx : x ≠ []) (hc : st = false → ¬ (rc x < x)) :
    (canonSt st (extend (canonSt st (extend x b d)).1 (recip x d (canonSt st (extend x b d)).2)
      (condFlip d.flip (canonSt st (extend x b d)).2))).1 = x := by
  have hself := canonSt_key_self hc
  rcases canonSt_cases st (extend x b d) with ⟨h, _⟩ | ⟨rfl, _, h⟩
  · rw [h]
    simp only [condFlip, Bool.false_eq_true, if_false]
    rw [Compress.extend_back x b d hx]
    exact hself
  · rw [h]
    simp only [condFlip, if_true, Dir.flip_flip]
    rw [Compress.extend_back_flip x b d hx]
    exact (minRcFlip_rc_key x).trans hself

theorem extSym2_removeCensored {D : Type} (st : Bool) (T : List (Entry D)) (K : Nat) (wf : WF T K st) (hes : ExtSym2 T st) :
    ExtSym2 (removeCensoredExts st T) st := by
  intro x ex d b y ey hx hbit hy hy'
  obtain ⟨ex0, hx0, hkx, _, hex⟩ := removeCensored_getElem? st T x ex hx
  obtain ⟨ey0, hy0, hky, _, hey⟩ := removeCensored_getElem? st T y ey hy'
  rw [findId_removeCensored, hkx] at hy
  have hb0 : has ex0.exts d b := by
    rw [hex, has_keepBits] at hbit; exact hbit.1
  rw [hkx]
  obtain ⟨ey', hy'', hkey⟩ := Compress.findId_some hy
  rw [hy0] at hy''; cases hy''
  have hback := canon_back_key (st := st) (x := ex0.key) (b := b) (d := d) (wf.key_ne_nil hx0) (fun hst => wf.canon hst x ex0 hx0)
  have hpres : (T.map (·.key)).contains ex0.key = true := by
    simpa using ⟨ex0, List.mem_of_getElem? hx0, rfl⟩
  -- on either strand, the extension that leads back has `ex0.key` as its target, which is present
  rcases hes x ex0 d b y ey0 hx0 hb0 hy hy0 with h1 | ⟨hp, h1⟩
  · refine Or.inl ?_
    rw [hey, has_keepBits, extTarget_eq, hkey, hback]
    exact ⟨h1, hpres⟩
  · refine Or.inr ⟨by rw [hky]; exact hp, ?_⟩
    simp only [Bool.and_eq_true, Bool.not_eq_true'] at hp
    obtain ⟨rfl, hpal⟩ := hp
    rw [hey, has_keepBits, extTarget_eq, extend_comp_flip, rc_of_isPal hpal,
      show ∀ z, (canonSt false (rc z)).1 = (canonSt false z).1 from minRcFlip_rc_key, hkey, hback]
    exact ⟨h1, hpres⟩

theorem extSym2_perm {D : Type} (st : Bool) (T1 T2 : List (Entry D)) (K : Nat) (hp : T2.Perm T1) (wf : WF T1 K st) (hes : ExtSym2 T1 st) :
    ExtSym2 T2 st := by
  intro x ex d b y ey hx hbit hy hy'
  obtain ⟨x1, hx1⟩ := List.mem_iff_getElem?.mp (hp.mem_iff.mp (List.mem_of_getElem? hx))
  obtain ⟨y1, hy1⟩ := List.mem_iff_getElem?.mp (hp.mem_iff.mp (List.mem_of_getElem? hy'))
  obtain ⟨ey', hy'', hkey⟩ := Compress.findId_some hy
  rw [hy'] at hy''; cases hy''
  have hf : findId T1 (canonSt st (extend ex.key b d)).1 = some y1 := by
    rw [← hkey]; exact Compress.findId_self wf hy1
  exact hes x1 ex d b y1 ey hx1 hbit hf hy1

theorem pipeline_table_ok2 (K : Nat) (hK : 1 ≤ K) (reads : List (Seq × Exts × Nat)) (hb : NoBoundary reads) (sm : Summarizer) (st : Bool)
    (T : List (Entry Payload)) (hp : T.Perm (removeCensoredExts st (refTable K reads sm st))) :
    WF T K st ∧ ExtSym2 T st := by
  have w0 := refTable_wf K hK reads hb sm st
  have s0 := refTable_extSym2 K hK reads hb sm st
  have w1 := wf_removeCensored st _ K w0
  have s1 := extSym2_removeCensored st _ K w0 s0
  exact ⟨wf_perm st _ T K hp w1, extSym2_perm st _ T K hp w1 s1⟩

/-- **tables from reads satisfy the hypotheses of the compression theorems**: after `filter_kmers`,
    `remove_censored_exts` and any re-ordering -/
theorem pipeline_table_ok (K : Nat) (hK : 1 ≤ K) (reads : List (Seq × Exts × Nat)) (hb : NoBoundary reads) (sm : Summarizer) (st : Bool)
    (T : List (Entry Payload)) (hp : T.Perm (removeCensoredExts st (refTable K reads sm st))) :
    WF T K st ∧ ExtSym T st :=
  (pipeline_table_ok2 K hK reads hb sm st T hp).imp id ExtSym2.toExtSym

end Filter
