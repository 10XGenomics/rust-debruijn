import Dbg.Lemmas.LinkInv
import Dbg.Lemmas.CompressProofs
/-! The hypotheses of the compression theorems on a k-mer table — `WF` (keys of length K, distinct, canonical when unstranded)
    and `ExtSym` (recorded extensions are reciprocal, self-complementary k-mers exempted at either end) — and what they give for
    `linkOf T`: it is reciprocal and `staticStep` never reaches its panic branch; hence C01 (ids) and C02 for the concrete walk. -/
namespace Compress
open Walk (Dir)

variable {D : Type}

structure WF (T : Table D) (K : Nat) (st : Bool) : Prop where
  kpos : 1 ≤ K
  len : ∀ (x : Nat) (e : Entry D), T[x]? = some e → e.key.length = K
  distinct : ∀ (x y : Nat) (ex ey : Entry D), T[x]? = some ex → T[y]? = some ey → ex.key = ey.key → x = y
  canon : st = false → ∀ (x : Nat) (e : Entry D), T[x]? = some e → ¬ (rc e.key < e.key)
  ext8 : ∀ (x : Nat) (e : Entry D), T[x]? = some e → e.exts.val < 256

/-- a table is well-formed when each of its entries is and its keys are distinct -/
theorem WF.of_mem {T : Table D} {K : Nat} {st : Bool} (hK : 1 ≤ K) (hlen : ∀ e ∈ T, e.key.length = K)
    (hnd : (T.map (·.key)).Nodup) (hcan : st = false → ∀ e ∈ T, ¬ rc e.key < e.key) (h8 : ∀ e ∈ T, e.exts.val < 256) :
    WF T K st where
  kpos := hK
  len := fun _ e h => hlen e (List.mem_of_getElem? h)
  distinct := fun x y ex ey hx hy hk => by
    apply (List.getElem?_inj (by simpa using (List.getElem?_eq_some_iff.mp hx).1) hnd).mp
    rw [List.getElem?_map, List.getElem?_map, hx, hy]
    exact congrArg some hk
  canon := fun hst _ e h => hcan hst e (List.mem_of_getElem? h)
  ext8 := fun _ e h => h8 e (List.mem_of_getElem? h)

theorem WF.keys_nodup {T : Table D} {K : Nat} {st : Bool} (wf : WF T K st) : (T.map (·.key)).Nodup := by
  rw [List.Nodup, List.pairwise_iff_getElem]
  intro i j hi hj hij
  simp only [List.getElem_map]
  intro hk
  simp only [List.length_map] at hi hj
  have := wf.distinct i j T[i] T[j] (List.getElem?_eq_getElem hi) (List.getElem?_eq_getElem hj) hk
  omega

theorem WF.key_ne_nil {T : Table D} {K : Nat} {st : Bool} (wf : WF T K st) {x : Nat} {e : Entry D} (h : T[x]? = some e) :
    e.key ≠ [] :=
  List.ne_nil_of_length_pos (by rw [wf.len x e h]; exact wf.kpos)

/-- reciprocity of recorded extensions between present, non-palindromic k-mers -/
def ExtSym (T : Table D) (st : Bool) : Prop :=
  ∀ (x : Nat) (ex : Entry D) (d : Dir) (b : Base) (y : Nat) (ey : Entry D), T[x]? = some ex → nibHas (ex.exts.dirBits d) b = true →
    findId T (canonSt st (extend ex.key b d)).1 = some y → T[y]? = some ey →
    (!st && isPalindrome ex.key) = false → (!st && isPalindrome ey.key) = false →
    nibHas (ey.exts.dirBits (condFlip d.flip (canonSt st (extend ex.key b d)).2))
      (recip ex.key d (canonSt st (extend ex.key b d)).2) = true

theorem findId_some {T : Table D} {k : Seq} {y : Nat} (h : findId T k = some y) :
    ∃ ey, T[y]? = some ey ∧ ey.key = k := by
  unfold findId at h
  obtain ⟨hlt, hp, _⟩ := List.findIdx?_eq_some_iff_getElem.mp h
  exact ⟨T[y], by simp [hlt], by simpa using hp⟩

theorem mem_keys_of_findId {T : Table D} {k : Seq} {y : Nat} (h : findId T k = some y) : k ∈ T.map (·.key) := by
  obtain ⟨e, he, hk⟩ := findId_some h
  rw [← hk]; exact List.mem_map_of_mem (List.mem_of_getElem? he)

theorem findId_self {T : Table D} {K st} (wf : WF T K st) {x : Nat} {ex : Entry D} (hx : T[x]? = some ex) :
    findId T ex.key = some x := by
  unfold findId
  cases hf : List.findIdx? (fun e => e.key == ex.key) T with
  | none =>
    have := List.findIdx?_eq_none_iff.mp hf ex (List.mem_of_getElem? hx)
    simp at this
  | some j =>
    obtain ⟨hlt, hp, _⟩ := List.findIdx?_eq_some_iff_getElem.mp hf
    have hj : T[j]? = some T[j] := by simp [hlt]
    have : j = x := wf.distinct j x T[j] ex hj hx (by simpa using hp)
    rw [this]

theorem rc_eq_self_even (x : Seq) (h : rc x = x) : x.length % 2 = 0 := by
  apply Decidable.byContradiction
  intro hodd
  have hi : x.length / 2 < x.length := by omega
  -- the middle base would be its own complement
  have e : (rc x)[x.length / 2]? = some (comp x[x.length / 2]) := by
    unfold rc
    rw [List.getElem?_reverse (by simpa using hi), List.getElem?_map, List.length_map,
      show x.length - 1 - x.length / 2 = x.length / 2 by omega, List.getElem?_eq_getElem hi]
    rfl
  rw [h, List.getElem?_eq_getElem hi] at e
  have := congrArg Fin.val (Option.some.inj e)
  simp only [comp] at this
  omega

theorem notPal_ne {x : Seq} (h : isPalindrome x = false) : rc x ≠ x := by
  intro e
  have := rc_eq_self_even x e
  unfold isPalindrome at h
  simp [this, e] at h

theorem canonSt_self {st : Bool} {x : Seq} (hc : st = false → ¬ (rc x < x))
    (hp : (!st && isPalindrome x) = false) : canonSt st x = (x, false) := by
  unfold canonSt
  cases st with
  | true => rfl
  | false =>
    simp only [Bool.false_eq_true, if_false]
    simp only [Bool.not_false, Bool.true_and] at hp
    have hne := notPal_ne hp
    have hlt : x < rc x := by
      rcases Std.lt_trichotomy x (rc x) with h | h | h
      · exact h
      · exact absurd h.symm hne
      · exact absurd h (hc rfl)
    simp [minRcFlip, hlt]

theorem canonSt_rc {x : Seq} (hc : ¬ (rc x < x)) (hp : isPalindrome x = false) :
    minRcFlip (rc x) = (x, true) := by
  have hne := notPal_ne hp
  unfold minRcFlip
  rw [rc_rc]
  simp [hc]

theorem condFlip_condFlip (d : Dir) (f : Bool) : condFlip (condFlip d f) f = d := by
  cases f <;> simp [condFlip]
theorem condFlip_flip (d : Dir) (f : Bool) : (condFlip d f).flip = condFlip d.flip f := by
  cases f <;> simp [condFlip]

/-- stepping back from the neighbour with the reciprocal base returns to `x` with the same flip -/
theorem canon_back {st : Bool} {x : Seq} {b : Base} {d : Dir} (hx : x ≠ [])
    (hc : st = false → ¬ (rc x < x)) (hp : (!st && isPalindrome x) = false) :
    canonSt st (extend (canonSt st (extend x b d)).1 (recip x d (canonSt st (extend x b d)).2)
      (condFlip d.flip (canonSt st (extend x b d)).2)) = (x, (canonSt st (extend x b d)).2) := by
  cases st with
  | true =>
    simp only [canonSt, if_true, condFlip, Bool.false_eq_true, if_false]
    rw [extend_back x b d hx]
  | false =>
    have hp' : isPalindrome x = false := by simpa using hp
    simp only [canonSt, Bool.false_eq_true, if_false]
    unfold minRcFlip
    by_cases hlt : extend x b d < rc (extend x b d)
    · simp only [hlt, if_true, condFlip, Bool.false_eq_true, if_false]
      rw [extend_back x b d hx]
      have := canonSt_self (st := false) (x := x) hc hp
      simpa [canonSt, minRcFlip] using this
    · simp only [hlt, if_false, condFlip, if_true, Dir.flip_flip]
      rw [extend_back_flip x b d hx]
      have := canonSt_rc (hc rfl) hp'
      simpa [minRcFlip] using this

theorem linkOf_sym {T : Table D} {K : Nat} {st : Bool} {join : D → D → Bool} (wf : WF T K st)
    (hes : ExtSym T st) (hj : ∀ a b, join a b = join b a) : Walk.Sym (linkOf T st join) := by
  intro x d y d' h
  obtain ⟨ex, ey, b, f⟩ := linkOf_inv T st join h
  have hxne : ex.key ≠ [] := by
    intro e
    have := wf.len x ex f.hx
    rw [e] at this
    have := wf.kpos
    simp at *; omega
  obtain ⟨ey', hy', hkey⟩ := findId_some f.hfind
  have : ey' = ey := by rw [f.hy] at hy'; exact (Option.some.inj hy').symm
  subst this
  have hbx := wf.ext8 x ex f.hx
  have hby := wf.ext8 y ey' f.hy
  have tx := nib_table ⟨ex.exts.dirBits d, dirBits_lt _ hbx d⟩ b
  have hasx : nibHas (ex.exts.dirBits d) b = true := tx.2.1 f.cntx f.uniq
  have paly' : (!st && isPalindrome ey'.key) = false := by rw [hkey]; exact f.paly
  have hasy := hes x ex d b y ey' f.hx hasx f.hfind f.hy f.palx paly'
  have ty := nib_table ⟨ey'.exts.dirBits (condFlip d.flip (canonSt st (extend ex.key b d)).2), dirBits_lt _ hby _⟩
    (recip ex.key d (canonSt st (extend ex.key b d)).2)
  have uniqy := ty.1 f.cnty hasy
  have hback := canon_back (b := b) (d := d) hxne (fun h => wf.canon h x ex f.hx) f.palx
  rw [← hkey] at hback
  have hd'' : d'.flip = condFlip d.flip (canonSt st (extend ex.key b d)).2 := by
    rw [f.hd', condFlip_flip]
  rw [hd'']
  apply linkOf_intro T st join (ex := ey') (ey := ex)
    (b := recip ex.key d (canonSt st (extend ex.key b d)).2)
  refine ⟨f.hy, f.cnty, paly', uniqy, ?_, f.hx, ?_, ?_, ?_, ?_⟩
  · rw [hback]; exact findId_self wf f.hx
  · rw [hback]; simp only; rw [condFlip_condFlip]
  · rw [hback]; simp only
    rw [condFlip_flip, Dir.flip_flip, condFlip_condFlip]; exact f.cntx
  · rw [hj]; exact f.hjoin
  · rw [hback]; exact f.palx

/-- the `unreachable` panic cannot fire on a reciprocal table -/
theorem noPanic {T : Table D} {K : Nat} {st : Bool} {join : D → D → Bool} (wf : WF T K st)
    (hes : ExtSym T st) : NoPanic T st join := by
  intro x d y d' ok e hs
  obtain ⟨ex, ey, b, hx, cntx, palx, uniq, hfind, hy, _, _, hpanic⟩ := staticStep_cand T st join hs
  simp only [Bool.true_eq, Bool.and_eq_true, beq_iff_eq, Bool.not_eq_true'] at hpanic
  obtain ⟨_, hy', hkey⟩ := findId_some hfind
  rw [hy] at hy'
  cases hy'
  have hasx := (nib_table ⟨ex.exts.dirBits d, dirBits_lt _ (wf.ext8 x ex hx) d⟩ b).2.1 cntx uniq
  have hasy := hes x ex d b y ey hx hasx hfind hy palx (by rw [hkey]; exact hpanic.2)
  exact (nib_table ⟨ey.exts.dirBits (condFlip d.flip (canonSt st (extend ex.key b d)).2), dirBits_lt _ (wf.ext8 y ey hy) _⟩
    (recip ex.key d (canonSt st (extend ex.key b d)).2)).2.2.1 hasy hpanic.1

/-- C01 (ids) + C02 for the string-level model: on a well-formed reciprocal table, the id-nodes produced by the
    seed-and-walk loop over `linkOf T` partition the table and are exactly the connected components of the
    good-link relation; and the concrete `walkC` (the code's control flow) computes exactly those walks. -/
theorem compress_components_concrete {T : Table D} {K : Nat} {st : Bool} {join : D → D → Bool}
    (wf : WF T K st) (hes : ExtSym T st) (hj : ∀ a b, join a b = join b a) :
    let link := linkOf T st join
    let ns := Walk.compress link (List.range T.length) (List.range T.length)
    ns.flatten.Nodup ∧ (∀ z, z ∈ ns.flatten ↔ z < T.length) ∧
    (∀ x y, x < T.length → (Walk.Conn link x y ↔ ∃ N ∈ ns, x ∈ N ∧ y ∈ N)) ∧
    (∀ avail x d, ∃ e, walkC T st join avail x d =
        some ((Walk.walk link avail x d).1, e, (Walk.walk link avail x d).2)) := by
  intro link ns
  have hs := linkOf_sym wf hes hj
  have hrange : ∀ x d y d', link x d = some (y, d') → y < T.length := by
    intro x d y d' h
    obtain ⟨ex, ey, b, f⟩ := linkOf_inv T st join h
    have := f.hy
    rw [List.getElem?_eq_some_iff] at this
    exact this.1
  obtain ⟨h1, h2, h3⟩ := Walk.compress_components link hs T.length hrange
  exact ⟨h1, h2, h3, walkC_refines T st join (noPanic wf hes)⟩

end Compress
