import Dbg.Lemmas.Sandwich
/-! The graphs built from the shards of a table, side by side: they are ported into the concatenated table, so the
    combined graph satisfies the node-level invariant and its re-compression is characterised by `pgraph_recompress`. -/
namespace Compress
open Filter (ExtSym2)
variable {D : Type}

theorem extSym2_append_left {A B : Table D} {st : Bool} (h : ExtSym2 (A ++ B) st) : ExtSym2 A st := by
  intro x ex d b y ey hx hb hy hy'
  exact h x ex d b y ey (by rw [List.getElem?_append_left (List.getElem?_eq_some_iff.mp hx).1]; exact hx) hb
    (findId_append_left A B _ y hy) (by rw [List.getElem?_append_left (List.getElem?_eq_some_iff.mp hy').1]; exact hy')

theorem extSym2_append_right {A B : Table D} {K : Nat} {st : Bool} (wf : WF (A ++ B) K st) (h : ExtSym2 (A ++ B) st) : ExtSym2 B st := by
  intro x ex d b y ey hx hb hy hy'
  exact h (A.length + x) ex d b (A.length + y) ey (by rw [getElem?_append_off]; exact hx) hb
    (findId_append_right wf _ y hy) (by rw [getElem?_append_off]; exact hy')

def AllBuilt (st : Bool) (join : D → D → Bool) (reduce : D → D → D) : List (Table D) → List (List (Node D × List Nat)) → Prop
  | [], [] => True
  | T :: Ts, o :: os => compressKmersC T st join reduce = some o ∧ AllBuilt st join reduce Ts os
  | _, _ => False

theorem allBuilt_of_tables {K : Nat} {st : Bool} (join : D → D → Bool) (hj : ∀ a b, join a b = join b a) (reduce : D → D → D) :
    ∀ (Ts : List (Table D)), WF Ts.flatten K st → ExtSym2 Ts.flatten st →
      ∃ outs, AllBuilt st join reduce Ts outs ∧ AllPorted K st join Ts (outs.map fun o => o.map (·.1)) := by
  intro Ts
  induction Ts with
  | nil => intro _ _; exact ⟨[], trivial, trivial⟩
  | cons T Ts ih =>
    intro wf hes
    rw [List.flatten_cons] at wf hes
    have wfT := wf_append_left wf
    have hesT := extSym2_append_left hes
    obtain ⟨outs, hb, hp⟩ := ih (wf_append_right wf) (extSym2_append_right wf hes)
    obtain ⟨o, ho, _⟩ := compressKmersC_partition (join := join) reduce wfT hesT.toExtSym hj
    obtain ⟨port, mem, pg, _⟩ := pgraph_of_compress reduce wfT hesT.toExtSym hj o ho
    exact ⟨o :: outs, ⟨ho, hb⟩, ⟨⟨port, mem, _, pg⟩, hp⟩⟩

theorem sharded_combined {R : Table D} {K : Nat} {st : Bool} (wfR : WF R K st) (hesR : ExtSym2 R st)
    (Ts : List (Table D)) (sw : Sandwich st Ts.flatten R) (reduce : D → D → D)
    (join0 : D → D → Bool) (hj0 : ∀ a b, join0 a b = join0 b a) :
    WF Ts.flatten K st ∧ ExtSym2 Ts.flatten st ∧ ∃ outs port mem lk, AllBuilt st join0 reduce Ts outs ∧
      PGraph Ts.flatten K st join0 (outs.map fun o => o.map (·.1)).flatten port mem lk := by
  have wfU := sandwich_wf wfR sw
  have hesU := sandwich_extSym2 wfR hesR sw
  obtain ⟨outs, hb, hp⟩ := allBuilt_of_tables (K := K) join0 hj0 reduce Ts wfU hesU
  obtain ⟨port, mem, lk, pg⟩ := pgraph_flatten K st join0 Ts _ hp wfU
  exact ⟨wfU, hesU, outs, port, mem, lk, hb, pg⟩

end Compress
