import Dbg.Lemmas.DnaRefine
/-! The block walk of `DnaString::get_kmer` / `Lmer::get_kmer` reads `K` consecutive lanes. -/
namespace DnaStr
open Block64 (blockSeq k32 k32_wf runBase_shift lanes_getElem)
open Kmer (Cfg St)

theorem toSeq_getElem (c : Cfg) (s : St c) (q : Nat) (hq : q < c.K) : (Kmer.toSeq c s)[q]? = some (Kmer.get c s q) := by
  simp [Kmer.toSeq, hq]

/-- the length of a round of the walk: to the end of the block unless the k-mer is complete first -/
theorem walk_round (K kp bp : Nat) (hk : kp < K) (hb : bp < 32) :
    1 ≤ min (K - kp) (32 - bp) ∧ min (K - kp) (32 - bp) ≤ 32 ∧ kp + min (K - kp) (32 - bp) ≤ K ∧
      bp + min (K - kp) (32 - bp) ≤ 32 ∧ (kp + min (K - kp) (32 - bp) < K → bp + min (K - kp) (32 - bp) = 32) := by omega

theorem walk_inv (c : Cfg) (hc : c.WF) (S : List Block) (p : Nat) (hp : p + c.K ≤ 32 * S.length)
    (block kmerPos blockPos : Nat) (kmer : St c)
    (h1 : kmerPos < c.K → 32 * block + blockPos = p + kmerPos) (h2 : blockPos < 32) (h3 : kmerPos ≤ c.K) (hi : Kmer.Inv c kmer)
    (hq : ∀ q, q < kmerPos → (Kmer.toSeq c kmer)[q]? = (S.flatMap blockSeq)[p + q]?) :
    ∃ s, walkBlocks c S block kmerPos blockPos kmer = some s ∧ Kmer.Inv c s ∧
      ∀ q, q < c.K → (Kmer.toSeq c s)[q]? = (S.flatMap blockSeq)[p + q]? := by
  fun_induction walkBlocks c S block kmerPos blockPos kmer with
  | case1 block kmerPos blockPos kmer hk nb hnb =>
    have := (walk_round c.K kmerPos blockPos hk h2).1
    rw [show min (c.K - kmerPos) (32 - blockPos) = 0 from hnb] at this; cases this
  | case2 block kmerPos blockPos kmer hk nb hnb hnone =>
    exfalso
    have h1' := h1 hk
    have : block < S.length := by omega
    rw [List.getElem?_eq_getElem this] at hnone; cases hnone
  | case3 block kmerPos blockPos kmer hk nb hnb v hv val ih =>
    have h1' := h1 hk
    obtain ⟨hn1, hn32, hpn, hnb2, hfull⟩ : 1 ≤ nb ∧ nb ≤ 32 ∧ kmerPos + nb ≤ c.K ∧ blockPos + nb ≤ 32 ∧
        (kmerPos + nb < c.K → blockPos + nb = 32) := walk_round c.K kmerPos blockPos hk h2
    apply ih (fun hlt => by rw [Nat.mul_succ, Nat.add_zero, ← Nat.add_assoc p, ← h1', Nat.add_assoc, hfull hlt]) (Nat.zero_lt_succ _) hpn
      (Kmer.inv_setSliceMut hc kmer kmerPos nb val hn1 hn32 hpn hi)
    intro q hq'
    have hqK : q < c.K := Nat.lt_of_lt_of_le hq' hpn
    rw [toSeq_getElem c _ q hqK, Kmer.get_setSliceMut hc kmer kmerPos nb val q hn1 hn32 hpn hqK]
    by_cases hin : kmerPos ≤ q ∧ q < kmerPos + nb
    · -- a base of this round: lane `blockPos + j` of block `block`
      obtain ⟨j, rfl⟩ : ∃ j, q = kmerPos + j := ⟨q - kmerPos, (Nat.add_sub_cancel' hin.1).symm⟩
      have hlane : blockPos + j < 32 := Nat.lt_of_lt_of_le (Nat.add_lt_add_left (Nat.lt_of_add_lt_add_left hin.2) _) hnb2
      rw [if_pos hin, Nat.add_sub_cancel_left, runBase_shift v blockPos j hlane, ← Nat.add_assoc, ← h1', Nat.add_assoc,
        lanes_getElem S block _ hlane, hv]; rfl
    · rw [if_neg hin, ← toSeq_getElem c kmer q hqK]
      exact hq q (Nat.lt_of_not_le (fun hle => hin ⟨hle, hq'⟩))
  | case4 block kmerPos blockPos kmer hk =>
    have : kmerPos = c.K := by omega
    subst this
    exact ⟨kmer, rfl, hi, hq⟩

theorem walk_spec (c : Cfg) (hc : c.WF) (S : List Block) (p : Nat) (hp : p + c.K ≤ 32 * S.length) :
    ∃ s, walkBlocks c S (p / 32) 0 (p % 32) (Kmer.empty c) = some s ∧ Kmer.Inv c s ∧
      Kmer.toSeq c s = ((S.flatMap blockSeq).drop p).take c.K := by
  obtain ⟨s, e, i, q⟩ := walk_inv c hc S p hp (p / 32) 0 (p % 32) (Kmer.empty c) (fun _ => Nat.div_add_mod p 32) (Nat.mod_lt p (by decide))
    (Nat.zero_le _) (by intro i _; simp [Kmer.empty]) (fun q hq => absurd hq (Nat.not_lt_zero q))
  refine ⟨s, e, i, List.ext_of_le c.K (by simp [Kmer.toSeq]) (List.length_take_le _ _) fun j hj => ?_⟩
  rw [q j hj, List.getElem?_take_of_lt hj, List.getElem?_drop]

theorem getKmer_spec (c : Cfg) (hc : c.WF) (d : T) (h : Inv d) (pos : Nat) (hp : pos + c.K ≤ d.len) :
    ∃ s, getKmer c d pos = some s ∧ Kmer.Inv c s ∧ Kmer.toSeq c s = ((toSeq d).drop pos).take c.K := by
  unfold getKmer
  rw [if_neg (by omega), addr_eq]
  obtain ⟨s, e, i, t⟩ := walk_spec c hc d.storage pos (Nat.le_trans hp h.le)
  refine ⟨s, e, i, ?_⟩
  rw [t]
  unfold toSeq flat
  rw [List.drop_take, List.take_take, Nat.min_eq_left (by omega)]

/-- the assertion of `get_kmer` -/
theorem getKmer_guard (c : Cfg) (d : T) (pos : Nat) (hp : ¬ pos + c.K ≤ d.len) : getKmer c d pos = none := by
  unfold getKmer; rw [if_pos (by omega)]

end DnaStr
