import Dbg.Lemmas.RecompressPG2
import Dbg.Props.C01
/-! Sharded assembly = one-pass assembly, abstractly: shards whose concatenation is sandwiched between the pruned and
    the full reference table, compressed separately, combined and re-compressed, give the same partition of the k-mers
    into nodes as compressing the pruned reference table (in any order) in one pass. -/
namespace Compress
open Walk (Dir Conn)
open Filter (ExtSym2 removeCensoredExts)
open Graph (G)
variable {D : Type}

structure Classes (E : Seq → Seq → Prop) (keys : List Seq) (parts : List (List Seq)) : Prop where
  nonempty : ∀ P ∈ parts, ∃ k, k ∈ P
  sub : ∀ P ∈ parts, ∀ k ∈ P, k ∈ keys
  cover : ∀ k ∈ keys, ∃ P ∈ parts, k ∈ P
  same : ∀ P ∈ parts, ∀ k1 ∈ P, ∀ k2 ∈ keys, (k2 ∈ P ↔ E k1 k2)

theorem classes_same {E : Seq → Seq → Prop} {keys : List Seq} {A B : List (List Seq)} (ha : Classes E keys A) (hb : Classes E keys B) :
    ∀ P ∈ A, ∃ Q ∈ B, ∀ k, k ∈ P ↔ k ∈ Q := by
  intro P hP
  obtain ⟨k0, hk0⟩ := ha.nonempty P hP
  obtain ⟨Q, hQ, hk0Q⟩ := hb.cover k0 (ha.sub P hP k0 hk0)
  refine ⟨Q, hQ, fun k => ⟨fun hk => ?_, fun hk => ?_⟩⟩
  · have hkk := ha.sub P hP k hk
    exact (hb.same Q hQ k0 hk0Q k hkk).mpr ((ha.same P hP k0 hk0 k hkk).mp hk)
  · have hkk := hb.sub Q hQ k hk
    exact (ha.same P hP k0 hk0 k hkk).mpr ((hb.same Q hQ k0 hk0Q k hkk).mp hk)

def SameParts (K : Nat) (st : Bool) (A B : List (Node D)) : Prop :=
  (∀ n ∈ A, ∃ m ∈ B, ∀ k, k ∈ canonKeys K st n ↔ k ∈ canonKeys K st m) ∧
  (∀ m ∈ B, ∃ n ∈ A, ∀ k, k ∈ canonKeys K st m ↔ k ∈ canonKeys K st n)

theorem sameParts_of_classes {K : Nat} {st : Bool} {E : Seq → Seq → Prop} {keys : List Seq} {A B : List (Node D)}
    (ha : Classes E keys (A.map (canonKeys K st))) (hb : Classes E keys (B.map (canonKeys K st))) : SameParts K st A B := by
  constructor
  · intro n hn
    obtain ⟨Q, hQ, h⟩ := classes_same ha hb _ (List.mem_map_of_mem hn)
    obtain ⟨m, hm, rfl⟩ := List.mem_map.mp hQ
    exact ⟨m, hm, h⟩
  · intro m hm
    obtain ⟨Q, hQ, h⟩ := classes_same hb ha _ (List.mem_map_of_mem hm)
    obtain ⟨n, hn, rfl⟩ := List.mem_map.mp hQ
    exact ⟨n, hn, h⟩

theorem sameParts_symm {K : Nat} {st : Bool} {A B : List (Node D)} (h : SameParts K st A B) : SameParts K st B A :=
  ⟨h.2, h.1⟩

theorem sameParts_trans {K : Nat} {st : Bool} {A B C : List (Node D)} (h1 : SameParts K st A B) (h2 : SameParts K st B C) :
    SameParts K st A C := by
  constructor
  · intro n hn
    obtain ⟨m, hm, e1⟩ := h1.1 n hn
    obtain ⟨l, hl, e2⟩ := h2.1 m hm
    exact ⟨l, hl, fun k => (e1 k).trans (e2 k)⟩
  · intro l hl
    obtain ⟨m, hm, e1⟩ := h2.2 l hl
    obtain ⟨n, hn, e2⟩ := h1.2 m hm
    exact ⟨n, hn, fun k => (e1 k).trans (e2 k)⟩

theorem contentLe_of_perm {A B : Table D} (h : A.Perm B) : ContentLe A B :=
  fun e he => ⟨e, h.mem_iff.mp he, rfl, rfl, fun _ => rfl⟩

theorem keyOf_mem {T : Table D} {x : Nat} (h : x < T.length) : keyOf T x ∈ T.map (·.key) := by
  unfold keyOf; rw [List.getElem?_eq_getElem h]; exact List.mem_map_of_mem (List.getElem_mem h)

theorem index_of_key {T : Table D} (k : Seq) (h : k ∈ T.map (·.key)) : ∃ x, x < T.length ∧ keyOf T x = k := by
  obtain ⟨e, he, rfl⟩ := List.mem_map.mp h
  obtain ⟨i, hi⟩ := List.mem_iff_getElem?.mp he
  exact ⟨i, (List.getElem?_eq_some_iff.mp hi).1, keyOf_of_get hi⟩

theorem keys_pruned (st : Bool) (T : Table D) : (removeCensoredExts st T).map (·.key) = T.map (·.key) := by
  simp only [removeCensoredExts, List.map_map, Function.comp_def]

theorem closed_perm {A B : Table D} {st : Bool} (hp : A.Perm B) (h : Closed B st) : Closed A st := by
  intro x e d b hx hb
  obtain ⟨i, hi⟩ := List.mem_iff_getElem?.mp (hp.mem_iff.mp (List.mem_of_getElem? hx))
  obtain ⟨y, hy⟩ := h i e d b hi hb
  obtain ⟨ey, hey, hkey⟩ := findId_some hy
  have : (canonSt st (extend e.key b d)).1 ∈ A.map (·.key) := by
    rw [← hkey]; exact List.mem_map_of_mem (hp.mem_iff.mpr (List.mem_of_getElem? hey))
  exact findId_isSome_of_mem A _ this

theorem pruned_listing {R Td : Table D} {K : Nat} {st : Bool} (wfR : WF R K st) (hesR : ExtSym2 R st)
    (hperm : Td.Perm (removeCensoredExts st R)) : WF Td K st ∧ ExtSym2 Td st ∧ Closed Td st :=
  have wfRp := Filter.wf_removeCensored st R K wfR
  ⟨Filter.wf_perm st _ Td K hperm wfRp,
   Filter.extSym2_perm st _ Td K hperm wfRp (Filter.extSym2_removeCensored st R K wfR hesR),
   closed_perm hperm (closed_pruned st R)⟩

section
variable {T : Table D} {K : Nat} {st : Bool} {join0 : D → D → Bool} {nodes : List (Node D)}
  {port : Nat → Dir → Nat × Dir} {members : Nat → List Nat} {lk : Walk.Link}

theorem PGraph.classes (pg : PGraph T K st join0 nodes port members lk) (wf : WF T K st) (E : Seq → Seq → Prop)
    {keys : List Seq} (hkeys : ∀ k, k ∈ keys ↔ k ∈ T.map (·.key))
    (hE : ∀ X Y, X < nodes.length → Y < nodes.length → ∀ x ∈ members X, ∀ y ∈ members Y,
      (X = Y ↔ E (keyOf T x) (keyOf T y))) :
    Classes E keys (nodes.map (canonKeys K st)) := by
  have hget : ∀ P ∈ nodes.map (canonKeys K st), ∃ i, i < nodes.length ∧ P = (members i).map (keyOf T) := by
    intro P hP
    obtain ⟨n, hn, rfl⟩ := List.mem_map.mp hP
    obtain ⟨i, hi, e⟩ := List.getElem_of_mem hn
    exact ⟨i, hi, pg.keys i n (by rw [List.getElem?_eq_getElem hi, e])⟩
  refine ⟨?_, ?_, ?_, ?_⟩
  · intro P hP
    obtain ⟨i, hi, rfl⟩ := hget P hP
    exact ⟨_, List.mem_map_of_mem (pg.portMem i .L hi)⟩
  · intro P hP k hk
    obtain ⟨i, hi, rfl⟩ := hget P hP
    obtain ⟨z, hz, rfl⟩ := List.mem_map.mp hk
    exact (hkeys _).mpr (keyOf_mem (pg.inRange i hi z hz))
  · intro k hk
    obtain ⟨x, hx, rfl⟩ := index_of_key k ((hkeys k).mp hk)
    obtain ⟨i, hi, hxi⟩ := pg.cover x hx
    refine ⟨_, List.mem_map_of_mem (List.getElem_mem hi), ?_⟩
    show _ ∈ (windowsOf K nodes[i].seq).map _
    rw [pg.keys i _ (List.getElem?_eq_getElem hi)]
    exact List.mem_map_of_mem hxi
  · intro P hP k1 hk1 k2 hk2
    obtain ⟨i, hi, rfl⟩ := hget P hP
    obtain ⟨x, hx, rfl⟩ := List.mem_map.mp hk1
    obtain ⟨y, hy, rfl⟩ := index_of_key k2 ((hkeys k2).mp hk2)
    obtain ⟨j, hj, hyj⟩ := pg.cover y hy
    rw [← hE i j hi hj x hx y hyj]
    constructor
    · intro h
      obtain ⟨y', hy', e⟩ := List.mem_map.mp h
      have : y' = y := keyOf_inj wf y' y (pg.inRange i hi y' hy') hy e
      subst this
      exact pg.disjoint i j hi hj y' hy' hyj
    · rintro rfl
      exact List.mem_map_of_mem hyj

end

theorem pgraph_components {T : Table D} {K : Nat} {st : Bool} {join : D → D → Bool} (reduce : D → D → D)
    (wf : WF T K st) (hes : ExtSym T st) (hj : ∀ a b, join a b = join b a)
    (out : List (Node D × List Nat)) (ho : compressKmersC T st join reduce = some out) :
    ∃ port members, PGraph T K st join (out.map (·.1)) port members (linkOf T st join) ∧
      ∀ X Y, X < out.length → Y < out.length → ∀ x ∈ members X, ∀ y ∈ members Y,
        (X = Y ↔ Conn (linkOf T st join) x y) := by
  obtain ⟨port, members, pg, hmem⟩ := pgraph_of_compress reduce wf hes hj out ho
  obtain ⟨out0, ho', hm, _⟩ := C01_nodes_are_id_paths (join := join) reduce wf hes
  cases ho.symm.trans ho'
  have hcomp := (compress_components_concrete wf hes hj).2.2.1
  rw [← hm] at hcomp
  have hlen : (out.map (·.1)).length = out.length := List.length_map ..
  have hmemX : ∀ X (hX : X < out.length), members X = out[X].2 := fun X hX => hmem X _ (List.getElem?_eq_getElem hX)
  refine ⟨port, members, pg, fun X Y hX hY x hx y hy => ?_⟩
  have hxl : x < T.length := pg.inRange X (hlen ▸ hX) x hx
  rw [hcomp x y hxl]
  constructor
  · rintro rfl
    exact ⟨members X, by rw [hmemX X hX]; exact List.mem_map_of_mem (List.getElem_mem hX), hx, hy⟩
  · rintro ⟨N, hN, h1, h2⟩
    obtain ⟨z, hz, rfl⟩ := List.mem_map.mp hN
    obtain ⟨k, hk, rfl⟩ := List.getElem_of_mem hz
    rw [← hmemX k hk] at h1 h2
    exact (pg.disjoint X k (hlen ▸ hX) (hlen ▸ hk) x hx h1).trans (pg.disjoint Y k (hlen ▸ hY) (hlen ▸ hk) y hy h2).symm

theorem direct_classes {Rp Td : Table D} {K : Nat} {st : Bool} (join : D → D → Bool) (hj : ∀ a b, join a b = join b a)
    (reduce : D → D → D) (wfR : WF Rp K st) (wfd : WF Td K st) (hesd : ExtSym2 Td st) (hperm : Td.Perm Rp) :
    ∃ outd, compressKmersC Td st join reduce = some outd ∧
      Classes (KConn Rp st join) (Rp.map (·.key)) ((outd.map (·.1)).map (canonKeys K st)) := by
  obtain ⟨outd, ho, _⟩ := compressKmersC_partition (join := join) reduce wfd hesd.toExtSym hj
  obtain ⟨port, members, pg, hconn⟩ := pgraph_components reduce wfd hesd.toExtSym hj outd ho
  refine ⟨outd, ho, pg.classes wfd _ (fun k => ((hperm.map (·.key)).mem_iff).symm) fun X Y hX hY x hx y hy => ?_⟩
  have hxl := pg.inRange X hX x hx
  have hyl := pg.inRange Y hY y hy
  rw [List.length_map] at hX hY
  rw [hconn X Y hX hY x hx y hy, conn_iff_kconn wfd join hxl hyl]
  exact ⟨kconn_content join wfR (contentLe_of_perm hperm) _ _, kconn_content join wfd (contentLe_of_perm hperm.symm) _ _⟩

open CompressGraph (ids compressGraph)

theorem classes_transfer {E E' : Seq → Seq → Prop} {keys keys' : List Seq} {parts : List (List Seq)}
    (h : Classes E keys parts) (he : ∀ k1 k2, E k1 k2 ↔ E' k1 k2) (hk : ∀ k, k ∈ keys' ↔ k ∈ keys) : Classes E' keys' parts :=
  ⟨h.nonempty, fun P hP k hkP => (hk k).mpr (h.sub P hP k hkP), fun k hkk => h.cover k ((hk k).mp hkk),
    fun P hP k1 hk1 k2 hk2 => (h.same P hP k1 hk1 k2 ((hk k2).mp hk2)).trans (he k1 k2)⟩

theorem mem_memOf_ids (members : Nat → List Nat) (p : List (Nat × Dir)) (z : Nat) :
    z ∈ memOf members p ↔ ∃ Q ∈ ids p, z ∈ members Q := by
  rw [mem_memOf]
  constructor
  · rintro ⟨q, hq, hz⟩
    exact ⟨q.1, List.mem_map_of_mem hq, hz⟩
  · rintro ⟨Q, hQ, hz⟩
    obtain ⟨q, hq, rfl⟩ := List.mem_map.mp hQ
    exact ⟨q, hq, hz⟩

theorem recompress_ported {U : Table D} {K : Nat} {st : Bool} {join0 : D → D → Bool} {nodes : List (Node D)}
    {port : Nat → Dir → Nat × Dir} {members : Nat → List Nat} {lk : Walk.Link}
    (pg : PGraph U K st join0 nodes port members lk) (wf : WF U K st) (hes2 : ExtSym2 U st) (reduce : D → D → D) :
    ∃ g' paths port' mem', compressGraph st (⟨K, nodes, st⟩ : G D) (fun _ _ => true) reduce [] = some (g', paths) ∧
      g'.K = K ∧ g'.stranded = st ∧
      PGraph (removeCensoredExts st (removeCensoredExts st U)) K st (fun _ _ => true) g'.nodes port' mem'
        (linkOf (removeCensoredExts st U) st (fun _ _ => true)) ∧
      g'.nodes.length = paths.length ∧ (∀ i p, paths[i]? = some p → mem' i = memOf members p) ∧
      ∀ X Y, X < g'.nodes.length → Y < g'.nodes.length → ∀ x ∈ mem' X, ∀ y ∈ mem' Y,
        (X = Y ↔ KConn (removeCensoredExts st U) st (fun _ _ => true) (keyOf U x) (keyOf U y)) := by
  obtain ⟨g', paths, port', mem', hcg, hK', hst', pg3, hlen3, hmem3⟩ := pgraph_compressGraph pg wf hes2 reduce
  obtain ⟨g0, paths0, hcg0, _, hchar⟩ :=
    pgraph_recompress pg wf hes2 reduce (fun _ _ => true) (fun _ _ => true) (fun _ _ => rfl) (fun _ _ => rfl)
  rw [hcg] at hcg0
  cases hcg0
  obtain ⟨_, _, _, hrangeP, _⟩ := CompressGraph.C09_kmers_cover st (⟨K, nodes, st⟩ : G D) wf.kpos pg.len _ reduce [] g' paths hcg
  have wf1 := Filter.wf_removeCensored st U K wf
  have hlenU : (removeCensoredExts st U).length = U.length := (Filter.removeCensored_exact st U).1
  refine ⟨g', paths, port', mem', hcg, hK', hst', pg3, hlen3, hmem3, ?_⟩
  have hmem : ∀ X (hX : X < paths.length) z, z ∈ mem' X ↔ ∃ Q ∈ ids paths[X], z ∈ members Q := fun X hX z => by
    rw [hmem3 X _ (List.getElem?_eq_getElem hX), mem_memOf_ids]
  intro X Y hX hY x hx y hy
  have hXp : X < paths.length := hlen3 ▸ hX
  have hYp : Y < paths.length := hlen3 ▸ hY
  obtain ⟨Qx, hQx, hxQ⟩ := (hmem X hXp x).mp hx
  obtain ⟨Qy, hQy, hyQ⟩ := (hmem Y hYp y).mp hy
  have hQxl := (hrangeP _ (List.getElem_mem hXp) Qx hQx).2
  have hQyl := (hrangeP _ (List.getElem_mem hYp) Qy hQy).2
  rw [← keyOf_pruned st U x, ← keyOf_pruned st U y,
    ← conn_iff_kconn wf1 _ (hlenU ▸ pg.inRange Qx hQxl x hxQ) (hlenU ▸ pg.inRange Qy hQyl y hyQ)]
  constructor
  · rintro rfl
    exact (hchar Qx Qy hQxl hQyl).1.mp ⟨_, List.getElem_mem hXp, hQx, hQy⟩ x hxQ y hyQ
  · intro hc
    -- the path that merges the two old nodes is the path of one new node, which then holds both positions
    obtain ⟨p, hpm, h1, h2⟩ := (hchar Qx Qy hQxl hQyl).2.mpr ⟨x, hxQ, y, hyQ, hc⟩
    obtain ⟨k, hk, rfl⟩ := List.getElem_of_mem hpm
    have hk' : k < g'.nodes.length := hlen3 ▸ hk
    exact (pg3.disjoint X k hX hk' x hx ((hmem k hk x).mpr ⟨Qx, h1, hxQ⟩)).trans
      (pg3.disjoint Y k hY hk' y hy ((hmem k hk y).mpr ⟨Qy, h2, hyQ⟩)).symm

theorem recompress_classes {U : Table D} {K : Nat} {st : Bool} {nodes' : List (Node D)}
    {port' : Nat → Dir → Nat × Dir} {mem' : Nat → List Nat} {lk : Walk.Link} (wf : WF U K st)
    (pg3 : PGraph (removeCensoredExts st (removeCensoredExts st U)) K st (fun _ _ => true) nodes' port' mem' lk)
    (hsame : ∀ X Y, X < nodes'.length → Y < nodes'.length → ∀ x ∈ mem' X, ∀ y ∈ mem' Y,
      (X = Y ↔ KConn (removeCensoredExts st U) st (fun _ _ => true) (keyOf U x) (keyOf U y))) :
    Classes (KConn (removeCensoredExts st U) st (fun _ _ => true)) (U.map (·.key)) (nodes'.map (canonKeys K st)) := by
  refine pg3.classes (Filter.wf_removeCensored st _ K (Filter.wf_removeCensored st U K wf)) _
    (fun k => by rw [keys_pruned, keys_pruned]) fun X Y hX hY x hx y hy => ?_
  rw [keyOf_pruned, keyOf_pruned, keyOf_pruned, keyOf_pruned]
  exact hsame X Y hX hY x hx y hy

theorem sharded_ported {R : Table D} {K : Nat} {st : Bool} (wfR : WF R K st) (hesR : ExtSym2 R st)
    (Ts : List (Table D)) (sw : Sandwich st Ts.flatten R) (reduce : D → D → D)
    (join0 : D → D → Bool) (hj0 : ∀ a b, join0 a b = join0 b a) :
    WF Ts.flatten K st ∧ ExtSym2 Ts.flatten st ∧ ∃ outs g' paths port' mem', AllBuilt st join0 reduce Ts outs ∧
      (∀ (i : Nat) (n : Node D), (outs.map fun o => o.map (·.1)).flatten[i]? = some n → K ≤ n.seq.length) ∧
      compressGraph st (⟨K, (outs.map fun o => o.map (·.1)).flatten, st⟩ : G D) (fun _ _ => true) reduce [] = some (g', paths) ∧
      PGraph (removeCensoredExts st (removeCensoredExts st Ts.flatten)) K st (fun _ _ => true) g'.nodes port' mem'
        (linkOf (removeCensoredExts st Ts.flatten) st (fun _ _ => true)) ∧
      Classes (KConn (removeCensoredExts st R) st (fun _ _ => true)) ((removeCensoredExts st R).map (·.key))
        (g'.nodes.map (canonKeys K st)) := by
  obtain ⟨wfU, hesU, outs, port, mem, lk, hb, pg⟩ := sharded_combined wfR hesR Ts sw reduce join0 hj0
  obtain ⟨g', paths, port', mem', hcg, _, _, pg3, _, _, hsame⟩ := recompress_ported pg wfU hesU reduce
  have hcl := recompress_classes wfU pg3 hsame
  obtain ⟨c1, c2⟩ := sandwich_pruned wfR sw
  have wfUp := Filter.wf_removeCensored st _ K wfU
  have wfRp := Filter.wf_removeCensored st R K wfR
  exact ⟨wfU, hesU, outs, g', paths, port', mem', hb, pg.len, hcg, pg3,
    classes_transfer hcl (fun k1 k2 => ⟨kconn_content _ wfRp c1 k1 k2, kconn_content _ wfUp c2 k1 k2⟩)
      (fun k => by rw [keys_pruned]; exact sw.keys.mem_iff.symm)⟩

theorem sharded_classes {R : Table D} {K : Nat} {st : Bool} (wfR : WF R K st) (hesR : ExtSym2 R st)
    (Ts : List (Table D)) (sw : Sandwich st Ts.flatten R) (reduce : D → D → D)
    (join0 : D → D → Bool) (hj0 : ∀ a b, join0 a b = join0 b a) :
    ∃ outs g' paths, AllBuilt st join0 reduce Ts outs ∧
      CompressGraph.compressGraph st (⟨K, (outs.map fun o => o.map (·.1)).flatten, st⟩ : G D) (fun _ _ => true) reduce [] = some (g', paths) ∧
      Classes (KConn (removeCensoredExts st R) st (fun _ _ => true)) ((removeCensoredExts st R).map (·.key))
        (g'.nodes.map (canonKeys K st)) := by
  obtain ⟨_, _, outs, g', paths, _, _, hb, _, hcg, _, hcl⟩ := sharded_ported wfR hesR Ts sw reduce join0 hj0
  exact ⟨outs, g', paths, hb, hcg, hcl⟩

theorem sharded_eq_direct_abstract {R : Table D} {K : Nat} {st : Bool} (wfR : WF R K st) (hesR : ExtSym2 R st)
    (Ts : List (Table D)) (sw : Sandwich st Ts.flatten R) (reduce : D → D → D)
    (join0 : D → D → Bool) (hj0 : ∀ a b, join0 a b = join0 b a)
    (Td : Table D) (hperm : Td.Perm (removeCensoredExts st R)) :
    ∃ outs g' paths outd, AllBuilt st join0 reduce Ts outs ∧
      CompressGraph.compressGraph st (⟨K, (outs.map fun o => o.map (·.1)).flatten, st⟩ : Graph.G D) (fun _ _ => true) reduce [] = some (g', paths) ∧
      compressKmersC Td st (fun _ _ => true) reduce = some outd ∧
      SameParts K st g'.nodes (outd.map (·.1)) := by
  obtain ⟨outs, g', paths, hb, hcg, hcl⟩ := sharded_classes wfR hesR Ts sw reduce join0 hj0
  obtain ⟨wfd, hesd, _⟩ := pruned_listing wfR hesR hperm
  obtain ⟨outd, hod, hcd⟩ :=
    direct_classes (fun _ _ => true) (fun _ _ => rfl) reduce (Filter.wf_removeCensored st R K wfR) wfd hesd hperm
  exact ⟨outs, g', paths, outd, hb, hcg, hod, sameParts_of_classes hcl hcd⟩


theorem sandwich_refl {K : Nat} {st : Bool} (T : Table D) (wf : WF T K st) : Sandwich st T T :=
  ⟨List.Perm.refl _, fun e he => by
    obtain ⟨i, hi⟩ := List.mem_iff_getElem?.mp he
    exact ⟨e, he, rfl, rfl, wf.ext8 i e hi, fun _ _ h => h, fun _ _ h _ => h⟩⟩

end Compress
