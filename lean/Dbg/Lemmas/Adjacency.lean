import Dbg.Lemmas.Idempotent
/-! The adjacencies of a ported graph — steps between consecutive k-mers inside nodes, and resolved edges between node
    ends — are exactly the extensions recorded in the (closed) table, as unordered pairs of canonical k-mers. -/
namespace Compress
open Walk (Dir)
open Filter (has ExtSym2 removeCensoredExts)
open Graph (G termKmer findLink)
variable {D : Type}

def AdjK (T : Table D) (st : Bool) (k1 k2 : Seq) : Prop :=
  ∃ e ∈ T, ∃ (d : Dir) (b : Base), e.key = k1 ∧ has e.exts d b ∧ (canonSt st (extend e.key b d)).1 = k2

def AdjG (K : Nat) (st : Bool) (nodes : List (Node D)) (k1 k2 : Seq) : Prop :=
  (∃ n ∈ nodes, ∃ j : Nat, (canonKeys K st n)[j]? = some k1 ∧ (canonKeys K st n)[j + 1]? = some k2) ∨
  (∃ (i : Nat) (n : Node D) (s : Dir) (β : Base) (Y : Nat) (inc : Dir) (fl : Bool) (nY : Node D),
    nodes[i]? = some n ∧ has n.exts s β ∧
    findLink (⟨K, nodes, st⟩ : G D) (extend (termKmer K n.seq s) β s) s = some (Y, inc, fl) ∧ nodes[Y]? = some nY ∧
    k1 = (canonSt st (termKmer K n.seq s)).1 ∧ k2 = (canonSt st (termKmer K nY.seq inc)).1)

theorem adjK_content {A B : Table D} {st : Bool} (hle : ContentLe A B) (k1 k2 : Seq) (h : AdjK A st k1 k2) : AdjK B st k1 k2 := by
  obtain ⟨e, he, d, b, hk, hb, ht⟩ := h
  obtain ⟨e', he', hk', _, hx⟩ := hle e he
  refine ⟨e', he', d, b, by rw [← hk', hk], ?_, by rw [← hk']; exact ht⟩
  unfold has at hb ⊢
  rw [← hx d]; exact hb

theorem canon_term_key {T : Table D} {K : Nat} {st : Bool} (wf : WF T K st) {n : Node D} {s : Dir} {p : Nat × Dir} {e : Entry D}
    (np : NodePort T K st n s p e) : (canonSt st (termKmer K n.seq s)).1 = e.key := by
  have hc := fun h => wf.canon h p.1 e np.ent
  symm
  apply key_is_canon st e.key _ hc
  · intro hst
    rw [np.term, if_pos (np.strand hst)]
  · rw [np.term]
    by_cases h : p.2 = s
    · left; rw [if_pos h]
    · right; rw [if_neg h, rc_rc]

section
variable {T : Table D} {K : Nat} {st : Bool} {join0 : D → D → Bool} {nodes : List (Node D)}
  {port : Nat → Dir → Nat × Dir} {members : Nat → List Nat} {lk : Walk.Link}

theorem link_target_of_ext {x : Nat} {d : Dir} {y : Nat} {d' : Dir} (h : linkOf T st join0 x d = some (y, d'))
    (wf : WF T K st) (ex : Entry D) (hx : T[x]? = some ex) (b : Base) (hb : has ex.exts d b) :
    (canonSt st (extend ex.key b d)).1 = keyOf T y := by
  obtain ⟨ex', ey, b', f⟩ := linkOf_inv T st join0 h
  have : ex' = ex := by have h0 := f.hx; rw [hx] at h0; exact (Option.some.inj h0).symm
  subst this
  have tx := nib_table ⟨ex'.exts.dirBits d, dirBits_lt _ (wf.ext8 x ex' hx) d⟩ b
  have h1 := tx.1 f.cntx hb
  have h2 := f.uniq
  rw [h1] at h2
  have : b = b' := Option.some.inj h2
  subst this
  obtain ⟨ey', hy', hkey⟩ := findId_some f.hfind
  rw [keyOf_of_get hy', hkey]

theorem adjK_of_link (wf : WF T K st) (x : Nat) (d : Dir) (y : Nat) (d' : Dir) (h : linkOf T st join0 x d = some (y, d')) :
    AdjK T st (keyOf T x) (keyOf T y) := by
  obtain ⟨ex, ey, b, f⟩ := linkOf_inv T st join0 h
  have hasx : has ex.exts d b := CompressGraph.nibUniq_has _ b f.uniq
  exact ⟨ex, List.mem_of_getElem? f.hx, d, b, (keyOf_of_get f.hx).symm, hasx, link_target_of_ext h wf ex f.hx b hasx⟩

theorem PGraph.canonKeys_chain (pg : PGraph T K st join0 nodes port members lk) {i : Nat} {n : Node D}
    (hn : nodes[i]? = some n) {cs : List (Nat × Dir)} (hcm : cs.map Prod.fst = members i) :
    canonKeys K st n = cs.map fun c => keyOf T c.1 := by
  unfold canonKeys
  rw [pg.keys i n hn, ← hcm, List.map_map]; rfl

/-- consecutive entries of a node's chain are consecutive k-mers of the node -/
theorem PGraph.adjG_step (pg : PGraph T K st join0 nodes port members lk) {i : Nat} {n : Node D}
    (hn : nodes[i]? = some n) {cs : List (Nat × Dir)} (hcm : cs.map Prod.fst = members i) {j : Nat} {a c : Nat × Dir}
    (ha : cs[j]? = some a) (hc : cs[j + 1]? = some c) : AdjG K st nodes (keyOf T a.1) (keyOf T c.1) := by
  refine Or.inl ⟨n, List.mem_of_getElem? hn, j, ?_, ?_⟩
  · rw [pg.canonKeys_chain hn hcm, List.getElem?_map, ha]; rfl
  · rw [pg.canonKeys_chain hn hcm, List.getElem?_map, hc]; rfl

theorem PGraph.adjG_sub (pg : PGraph T K st join0 nodes port members lk) (wf : WF T K st)
    (k1 k2 : Seq) (h : AdjG K st nodes k1 k2) : AdjK T st k1 k2 := by
  rcases h with ⟨n, hn, j, h1, h2⟩ | ⟨i, n, s, β, Y, inc, fl, nY, hi, hβ, hl, hY, hk1, hk2⟩
  · obtain ⟨i, hi⟩ := List.mem_iff_getElem?.mp hn
    obtain ⟨cs, hcm, hoc, _, _⟩ := pg.chain i (List.getElem?_eq_some_iff.mp hi).1
    rw [pg.canonKeys_chain hi hcm, List.getElem?_map] at h1 h2
    obtain ⟨a, ha, rfl⟩ := Option.map_eq_some_iff.mp h1
    obtain ⟨c, hc, rfl⟩ := Option.map_eq_some_iff.mp h2
    exact adjK_of_link wf a.1 a.2 c.1 c.2 (pg.lkSub _ _ _ _ (ochain_getElem lk cs hoc j a c ha hc))
  · obtain ⟨ex, np⟩ := pg.np i n s hi
    obtain ⟨_, hcan⟩ := node_target n s (port i s) ex np β
    refine ⟨ex, List.mem_of_getElem? np.ent, (port i s).2, _, ?_, (np.exts β).mp hβ, ?_⟩
    · rw [hk1]; exact (canon_term_key wf np).symm
    · rw [hk2, ← hcan]; exact findLink_canon hl hY

/-- an extension recorded at an end port of a node is an edge that `find_link` resolves -/
theorem PGraph.adjG_end (pg : PGraph T K st join0 nodes port members lk) (wf : WF T K st) (hes2 : ExtSym2 T st)
    (hcl : Closed T st) {i : Nat} {n : Node D} (hn : nodes[i]? = some n) (s : Dir) {e : Entry D}
    (np : NodePort T K st n s (port i s) e) {b : Base} (hb : has e.exts (port i s).2 b) :
    AdjG K st nodes e.key (canonSt st (extend e.key b (port i s).2)).1 := by
  -- the node-level base
  let β : Base := if (port i s).2 = s then b else comp b
  have hβb : (if (port i s).2 = s then β else comp β) = b := by
    by_cases hh : (port i s).2 = s <;> simp [β, hh]
  have hβ : has n.exts s β := by rw [np.exts β, hβb]; exact hb
  obtain ⟨_, hcan⟩ := node_target n s (port i s) e np β
  rw [hβb] at hcan
  obtain ⟨y, hy⟩ := hcl _ e _ b np.ent hb
  have hmem : (canonSt st (extend (termKmer K n.seq s) β s)).1 ∈ T.map (·.key) := by
    rw [hcan]
    exact mem_keys_of_findId hy
  obtain ⟨⟨Y, inc, fl⟩, hl⟩ := Option.isSome_iff_exists.mp ((pg.edge_iff wf hes2 i n hn s β hβ).mpr hmem)
  obtain ⟨nY, hY, _⟩ := Graph.findLink_sound _ _ _ _ _ _ hl
  refine Or.inr ⟨i, n, s, β, Y, inc, fl, nY, hn, hβ, hl, hY, (canon_term_key wf np).symm, ?_⟩
  rw [← hcan]; exact findLink_canon hl hY

theorem PGraph.adjK_sub (pg : PGraph T K st join0 nodes port members lk) (wf : WF T K st) (hes2 : ExtSym2 T st)
    (hcl : Closed T st) (hj0 : ∀ a b, join0 a b = join0 b a) (k1 k2 : Seq) (h : AdjK T st k1 k2) :
    AdjG K st nodes k1 k2 ∨ AdjG K st nodes k2 k1 := by
  obtain ⟨e, he, d, b, rfl, hb, rfl⟩ := h
  obtain ⟨x, hx⟩ := List.mem_iff_getElem?.mp he
  obtain ⟨i, hi, hxi⟩ := pg.cover x (List.getElem?_eq_some_iff.mp hx).1
  obtain ⟨n, hn⟩ : ∃ n, nodes[i]? = some n := ⟨_, List.getElem?_eq_getElem hi⟩
  by_cases hend : ∃ s, (x, d) = port i s
  · obtain ⟨s, hs⟩ := hend
    obtain ⟨ex, np⟩ := pg.np i n s hn
    have hent := np.ent
    rw [← hs, hx] at hent
    cases hent
    have := pg.adjG_end wf hes2 hcl hn s np (b := b) (by rw [← hs]; exact hb)
    rw [← hs] at this
    exact Or.inl this
  · -- an interior port: the extension is the step to the neighbour in the node's chain
    obtain ⟨cs, hcm, hoc, hhead, hlast⟩ := pg.chain i hi
    rw [← hcm] at hxi
    obtain ⟨a, ha, rfl⟩ := List.mem_map.mp hxi
    obtain ⟨j, haj⟩ := List.mem_iff_getElem?.mp ha
    rcases chain_neighbour haj d (fun h => hend ⟨.L, Option.some.inj (h.symm.trans hhead)⟩)
      (fun h => hend ⟨.R, Option.some.inj (h.symm.trans hlast)⟩) with ⟨rfl, c, hc⟩ | ⟨rfl, j', c, rfl, hc⟩
    · have hlk := pg.lkSub _ _ _ _ (ochain_getElem lk cs hoc j a c haj hc)
      rw [link_target_of_ext hlk wf e hx b hb, ← keyOf_of_get hx]
      exact Or.inl (pg.adjG_step hn hcm haj hc)
    · have hlk := linkOf_sym wf hes2.toExtSym hj0 _ _ _ _ (pg.lkSub _ _ _ _ (ochain_getElem lk cs hoc j' c a hc haj))
      rw [link_target_of_ext hlk wf e hx b hb, ← keyOf_of_get hx]
      exact Or.inr (pg.adjG_step hn hcm hc haj)

end

open CompressGraph (compressGraph)

def AdjGS (K : Nat) (st : Bool) (nodes : List (Node D)) (k1 k2 : Seq) : Prop := AdjG K st nodes k1 k2 ∨ AdjG K st nodes k2 k1
def AdjKS (T : Table D) (st : Bool) (k1 k2 : Seq) : Prop := AdjK T st k1 k2 ∨ AdjK T st k2 k1

theorem PGraph.adj_iff {T : Table D} {K : Nat} {st : Bool} {join0 : D → D → Bool} {nodes : List (Node D)}
    {port : Nat → Dir → Nat × Dir} {members : Nat → List Nat} {lk : Walk.Link}
    (pg : PGraph T K st join0 nodes port members lk) (wf : WF T K st) (hes2 : ExtSym2 T st) (hcl : Closed T st)
    (hj0 : ∀ a b, join0 a b = join0 b a) (k1 k2 : Seq) : AdjGS K st nodes k1 k2 ↔ AdjKS T st k1 k2 := by
  constructor
  · exact Or.imp (pg.adjG_sub wf _ _) (pg.adjG_sub wf _ _)
  · rintro (h | h)
    · exact pg.adjK_sub wf hes2 hcl hj0 _ _ h
    · exact (pg.adjK_sub wf hes2 hcl hj0 _ _ h).symm

theorem contentLe_trans {A B C : Table D} (h1 : ContentLe A B) (h2 : ContentLe B C) : ContentLe A C := by
  intro ea hea
  obtain ⟨eb, heb, k1, d1, x1⟩ := h1 ea hea
  obtain ⟨ec, hec, k2, d2, x2⟩ := h2 eb heb
  exact ⟨ec, hec, k1.trans k2, d1.trans d2, fun d => (x1 d).trans (x2 d)⟩

/-- In the setting of `sharded_eq_direct_abstract`, the re-compressed combination of the shard graphs and the one-pass
    graph have the same adjacencies. -/
theorem sharded_adjacency_abstract {R : Table D} {K : Nat} {st : Bool} (wfR : WF R K st) (hesR : ExtSym2 R st)
    (Ts : List (Table D)) (sw : Sandwich st Ts.flatten R) (reduce : D → D → D)
    (join0 : D → D → Bool) (hj0 : ∀ a b, join0 a b = join0 b a)
    (Td : Table D) (hperm : Td.Perm (removeCensoredExts st R)) :
    ∃ outs g' paths outd, AllBuilt st join0 reduce Ts outs ∧
      compressGraph st (⟨K, (outs.map fun o => o.map (·.1)).flatten, st⟩ : G D) (fun _ _ => true) reduce [] = some (g', paths) ∧
      compressKmersC Td st (fun _ _ => true) reduce = some outd ∧
      ∀ k1 k2, AdjGS K st g'.nodes k1 k2 ↔ AdjGS K st (outd.map (·.1)) k1 k2 := by
  obtain ⟨wfU, hesU, outs, g', paths, port', mem', hb, _, hcg, pg3, _⟩ := sharded_ported wfR hesR Ts sw reduce join0 hj0
  have wf1 := Filter.wf_removeCensored st _ K wfU
  have hes1 := Filter.extSym2_removeCensored st _ K wfU hesU
  have wf2 := Filter.wf_removeCensored st _ K wf1
  have hes2' := Filter.extSym2_removeCensored st _ K wf1 hes1
  obtain ⟨wfd, hesd, hcld⟩ := pruned_listing wfR hesR hperm
  obtain ⟨outd, hod, _, _⟩ := compressKmersC_partition (join := fun _ _ => true) reduce wfd hesd.toExtSym (fun _ _ => rfl)
  obtain ⟨portd, memd, pgd, _⟩ := pgraph_of_compress reduce wfd hesd.toExtSym (fun _ _ => rfl) outd hod
  refine ⟨outs, g', paths, outd, hb, hcg, hod, fun k1 k2 => ?_⟩
  obtain ⟨c21, c12⟩ := prune_closed_content wf1 (closed_pruned st Ts.flatten)
  obtain ⟨cUR, cRU⟩ := sandwich_pruned wfR sw
  have cRd := contentLe_of_perm hperm.symm
  have cdR := contentLe_of_perm hperm
  have c3d : ContentLe (removeCensoredExts st (removeCensoredExts st Ts.flatten)) Td := contentLe_trans (contentLe_trans c21 cUR) cRd
  have cd3 : ContentLe Td (removeCensoredExts st (removeCensoredExts st Ts.flatten)) := contentLe_trans (contentLe_trans cdR cRU) c12
  rw [pg3.adj_iff wf2 hes2' (closed_pruned st _) (fun _ _ => rfl) k1 k2,
    pgd.adj_iff wfd hesd hcld (fun _ _ => rfl) k1 k2]
  exact ⟨Or.imp (adjK_content c3d _ _) (adjK_content c3d _ _), Or.imp (adjK_content cd3 _ _) (adjK_content cd3 _ _)⟩

end Compress
