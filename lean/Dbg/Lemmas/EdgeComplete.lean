import Dbg.Lemmas.PGraphEdges
/-! `find_link` is complete on the graphs `compress_kmers` builds: an extension recorded on a node side whose target
    k-mer is in the table always resolves to a node.  (The graph is ported into its table: `pgraph_of_compress`.) -/
namespace Compress
open Walk (Dir)
open Filter (has ExtSym2)
open Graph (termKmer findLink)
variable {D : Type}

/-- **completeness of `find_link` on built graphs.**  If a node of the graph built from `T` records base `β` on side
    `s` and the canonical form of the k-mer this leads to is a key of `T`, then `find_link` resolves it. -/
theorem findLink_complete {T : Table D} {K : Nat} {st : Bool} {join : D → D → Bool} (reduce : D → D → D)
    (wf : WF T K st) (hes2 : ExtSym2 T st) (hj : ∀ a b, join a b = join b a)
    (out : List (Node D × List Nat)) (ho : compressKmersC T st join reduce = some out)
    (X : Node D × List Nat) (hX : X ∈ out) (s : Dir) (β : Base) (hβ : has X.1.exts s β)
    (y : Nat) (hy : findId T (canonSt st (extend (termKmer K X.1.seq s) β s)).1 = some y) :
    (findLink (⟨K, out.map (·.1), st⟩ : Graph.G D) (extend (termKmer K X.1.seq s) β s) s).isSome := by
  obtain ⟨_, _, pg, _⟩ := pgraph_of_compress reduce wf hes2.toExtSym hj out ho
  obtain ⟨i, hi⟩ := List.getElem?_of_mem (List.mem_map_of_mem (f := (·.1)) hX)
  exact (pg.edge_iff wf hes2 i X.1 hi s β hβ).mpr (mem_keys_of_findId hy)

section
variable {T : Table D} {K : Nat} {st : Bool} {join : D → D → Bool} (reduce : D → D → D) (wf : WF T K st)
include wf

theorem node_port_exists (hes : ExtSym T st) (hj : ∀ a b, join a b = join b a)
    (out : List (Node D × List Nat)) (ho : compressKmersC T st join reduce = some out)
    (X : Node D × List Nat) (hX : X ∈ out) (s : Dir) : ∃ p ex, NodePort T K st X.1 s p ex := by
  obtain ⟨port, _, pg, _⟩ := pgraph_of_compress reduce wf hes hj out ho
  obtain ⟨i, hi⟩ := List.getElem?_of_mem (List.mem_map_of_mem (f := (·.1)) hX)
  obtain ⟨ex, np⟩ := pg.np i X.1 s hi
  exact ⟨_, ex, np⟩

/-- **soundness of `find_link` w.r.t. the table**: a k-mer that resolves to a node of the built graph is, in canonical
    form, a key of the table -/
theorem findLink_in_table (hes : ExtSym T st) (hj : ∀ a b, join a b = join b a)
    (out : List (Node D × List Nat)) (ho : compressKmersC T st join reduce = some out)
    (km : Seq) (dir : Dir) (h : (findLink (⟨K, out.map (·.1), st⟩ : Graph.G D) km dir).isSome) :
    (canonSt st km).1 ∈ T.map (·.key) := by
  obtain ⟨_, _, pg, _⟩ := pgraph_of_compress reduce wf hes hj out ho
  exact pg.findLink_in_table km dir h

end

/-- **the graph built by `compress_kmers` satisfies the node-level invariant**: it is ported into its table -/
theorem compress_ginv {T : Table D} {K : Nat} {st : Bool} {join : D → D → Bool} (reduce : D → D → D)
    (wf : WF T K st) (hes2 : ExtSym2 T st) (hj : ∀ a b, join a b = join b a)
    (out : List (Node D × List Nat)) (ho : compressKmersC T st join reduce = some out) :
    Graph.GInv (⟨K, out.map (·.1), st⟩ : Graph.G D) := by
  obtain ⟨port, members, pg, _⟩ := pgraph_of_compress reduce wf hes2.toExtSym hj out ho
  exact pg.ginv wf hes2

end Compress
