import Dbg.Lemmas.NodePort
import Dbg.Lemmas.Ports
/-! Stepping back along a recorded extension (`link_back`), and the output of `compress_kmers` together with the seed and
    the available set each node was built from (`Built`). -/
namespace Compress
open Walk (Dir)
open Filter (has ExtSym2)
variable {D : Type}

/-- **stepping back.** If `x` records `b` on side `δ`, the target `y` is in the table, and `y` has a good link on the
    facing side, then that link leads back to `x`, arriving on side `δ`. -/
theorem link_back {T : Table D} {K : Nat} {st : Bool} {join : D → D → Bool} (wf : WF T K st) (hes2 : ExtSym2 T st)
    (x : Nat) (ex : Entry D) (δ : Dir) (b : Base) (y : Nat) (hx : T[x]? = some ex) (hb : has ex.exts δ b)
    (hy : findId T (canonSt st (extend ex.key b δ)).1 = some y) (w' : Nat) (d' : Dir)
    (hl : linkOf T st join y (condFlip δ.flip (canonSt st (extend ex.key b δ)).2) = some (w', d')) :
    w' = x ∧ d'.flip = δ := by
  obtain ⟨ey, ew, b', F⟩ := linkOf_inv T st join hl
  obtain ⟨ey', hy', hkey⟩ := findId_some hy
  have e1 : ey' = ey := by rw [F.hx] at hy'; exact (Option.some.inj hy').symm
  subst e1
  have hxne : ex.key ≠ [] := wf.key_ne_nil hx
  -- `y` records the reciprocal base on the facing side, and it is its only extension there
  have hrec : has ey'.exts (condFlip δ.flip (canonSt st (extend ex.key b δ)).2) (recip ex.key δ (canonSt st (extend ex.key b δ)).2) := by
    rcases hes2 x ex δ b y ey' hx hb hy F.hx with h | ⟨hp, _⟩
    · exact h
    · rw [F.palx] at hp; cases hp
  have hby := wf.ext8 y ey' F.hx
  have ty := nib_table ⟨ey'.exts.dirBits (condFlip δ.flip (canonSt st (extend ex.key b δ)).2), dirBits_lt _ hby _⟩
    (recip ex.key δ (canonSt st (extend ex.key b δ)).2)
  have hu := ty.1 F.cntx hrec
  have hb' : b' = recip ex.key δ (canonSt st (extend ex.key b δ)).2 := by
    have := F.uniq
    rw [hu] at this
    exact (Option.some.inj this).symm
  subst hb'
  have hfind := F.hfind
  have hpal := F.paly
  have hd' := F.hd'
  rw [hkey] at hfind hpal hd'
  have hk := Filter.canon_back_key (st := st) (x := ex.key) (b := b) (d := δ) hxne (fun h => wf.canon h x ex hx)
  rw [hk] at hfind hpal
  have hself := findId_self wf hx
  rw [hself] at hfind
  have hwx : w' = x := (Option.some.inj hfind).symm
  have hback := canon_back (b := b) (d := δ) hxne (fun h => wf.canon h x ex hx) hpal
  rw [hback] at hd'
  simp only at hd'
  rw [condFlip_condFlip] at hd'
  refine ⟨hwx, ?_⟩
  rw [hd', Dir.flip_flip]

theorem nodePort_mem (T : Table D) (st : Bool) (join : D → D → Bool) (avail : List Nat) (seed : Nat) (s : Dir) :
    (nodePort T st join avail seed s).1 ∈ (Walk.build (linkOf T st join) avail seed).1 := by
  have hb : (Walk.build (linkOf T st join) avail seed).1 =
      ((leftW T st join avail seed).1.map Prod.fst).reverse ++ [seed] ++ (rightW T st join avail seed).1.map Prod.fst := rfl
  rw [hb]
  have hseed : seed ∈ ((leftW T st join avail seed).1.map Prod.fst).reverse ++ [seed] ++ (rightW T st join avail seed).1.map Prod.fst :=
    List.mem_append_left _ (List.mem_append_right _ (List.mem_singleton_self _))
  cases s with
  | L =>
    show (lastPort (leftW T st join avail seed).1 seed .L).1 ∈ _
    rcases lastPort_eq_or_mem (leftW T st join avail seed).1 seed .L with h | h
    · rw [h]; exact hseed
    · exact List.mem_append_left _ (List.mem_append_left _ (List.mem_reverse.mpr (List.mem_map_of_mem h)))
  | R =>
    show (lastPort (rightW T st join avail seed).1 seed .R).1 ∈ _
    rcases lastPort_eq_or_mem (rightW T st join avail seed).1 seed .R with h | h
    · rw [h]; exact hseed
    · exact List.mem_append_right _ (List.mem_map_of_mem h)

/-- the output of `compress_kmers` with its provenance and the facts of the id-level partition -/
structure Built (T : Table D) (K : Nat) (st : Bool) (join : D → D → Bool) (reduce : D → D → D)
    (out : List (Node D × List Nat)) (provs : List (List Nat × Nat)) : Prop where
  len : provs.length = out.length
  prov : ∀ (i : Nat) (x : Node D × List Nat) (pr : List Nat × Nat), out[i]? = some x → provs[i]? = some pr →
    pr.2 < T.length ∧ pr.2 ∈ pr.1 ∧ ∃ a', buildNodeC T st join reduce pr.1 pr.2 = some (x.1, x.2, a')
  ids : ∀ (i : Nat) (x : Node D × List Nat) (pr : List Nat × Nat), out[i]? = some x → provs[i]? = some pr →
    x.2 = (Walk.build (linkOf T st join) pr.1 pr.2).1
  nodup : (out.flatMap (·.2)).Nodup
  cover : ∀ z, z < T.length → ∃ x ∈ out, z ∈ x.2

theorem built_of_compress {T : Table D} {K : Nat} {st : Bool} {join : D → D → Bool} (reduce : D → D → D)
    (wf : WF T K st) (hes : ExtSym T st) (hj : ∀ a b, join a b = join b a)
    (out : List (Node D × List Nat)) (ho : compressKmersC T st join reduce = some out) :
    ∃ provs, Built T K st join reduce out provs := by
  obtain ⟨provs, hl, hp⟩ := compressLoopC_provs T st join reduce (List.range T.length) (List.range T.length) out
    (fun i hi => List.mem_range.mp hi) ho
  obtain ⟨_, hnd, hcov⟩ := compressKmersC_spec reduce wf hes hj out ho
  have hfl : (out.map (·.2)).flatten = out.flatMap (·.2) := by rw [List.flatMap_def]
  refine ⟨provs, hl, hp, ?_, by rw [← hfl]; exact hnd, ?_⟩
  · intro i x pr hx hpr
    obtain ⟨hlt, _, a', hb⟩ := hp i x pr hx hpr
    obtain ⟨nd, hb', _⟩ := buildNodeC_spec (join := join) reduce wf hes pr.1 pr.2 T[pr.2] (List.getElem?_eq_getElem hlt)
    rw [hb] at hb'
    simp only [Option.some.injEq, Prod.mk.injEq] at hb'
    exact hb'.2.1
  · intro z hz
    have := (hcov z).mpr hz
    rw [hfl, List.mem_flatMap] at this
    exact this

end Compress
