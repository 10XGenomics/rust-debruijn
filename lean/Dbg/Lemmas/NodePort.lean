import Dbg.Lemmas.NodeExts
import Dbg.Lemmas.GraphSym
/-! The two sides of a built node as k-mer *ports* of the table (`NodePort`), and reciprocity of extensions between two
    node sides whose ports are joined: the orientation parity of an edge is forced by the strings, and a palindromic
    k-mer forms a node by itself. -/
namespace Compress
open Walk (Dir rm)
open Filter (has hasExt_iff ExtSym2)
variable {D : Type}

/-- provenance of the nodes, aligned with the output: the availability list and the seed each node was built from -/
theorem compressLoopC_provs (T : Table D) (st : Bool) (join : D → D → Bool) (reduce : D → D → D) :
    ∀ (is avail : List Nat) (out : List (Node D × List Nat)), (∀ i ∈ is, i < T.length) →
      compressLoopC T st join reduce is avail = some out →
      ∃ provs : List (List Nat × Nat), provs.length = out.length ∧
        ∀ (i : Nat) (x : Node D × List Nat) (pr : List Nat × Nat), out[i]? = some x → provs[i]? = some pr →
          pr.2 < T.length ∧ pr.2 ∈ pr.1 ∧ ∃ a', buildNodeC T st join reduce pr.1 pr.2 = some (x.1, x.2, a') := by
  intro is
  induction is with
  | nil =>
    intro avail out _ h
    simp only [compressLoopC, Option.some.injEq] at h
    subst h
    exact ⟨[], rfl, fun i x pr hx _ => by simp at hx⟩
  | cons i is ih =>
    intro avail out hr h
    have hi : i < T.length := hr i (by simp)
    have hrest : ∀ j ∈ is, j < T.length := fun j hj => hr j (by simp [hj])
    unfold compressLoopC at h
    by_cases hmem : i ∈ avail
    · rw [if_pos hmem] at h
      cases hb : buildNodeC T st join reduce avail i with
      | none => rw [hb] at h; cases h
      | some r =>
        obtain ⟨nd, ids, a'⟩ := r
        rw [hb] at h
        simp only at h
        cases hrec : compressLoopC T st join reduce is a' with
        | none => rw [hrec] at h; cases h
        | some rest =>
          rw [hrec] at h
          simp only [Option.some.injEq] at h
          subst h
          obtain ⟨provs, hl, hp⟩ := ih a' rest hrest hrec
          refine ⟨(avail, i) :: provs, by simp [hl], ?_⟩
          intro j x pr hx hpr
          cases j with
          | zero =>
            simp only [List.getElem?_cons_zero, Option.some.injEq] at hx hpr
            subst hx; subst hpr
            exact ⟨hi, hmem, a', hb⟩
          | succ j =>
            rw [List.getElem?_cons_succ] at hx hpr
            exact hp j x pr hx hpr
    · rw [if_neg hmem] at h
      exact ih avail out hrest h

theorem compressLoopC_prov (T : Table D) (st : Bool) (join : D → D → Bool) (reduce : D → D → D) :
    ∀ (is avail : List Nat) (out : List (Node D × List Nat)), (∀ i ∈ is, i < T.length) →
      compressLoopC T st join reduce is avail = some out →
      ∀ x ∈ out, ∃ av seed a', seed < T.length ∧ buildNodeC T st join reduce av seed = some (x.1, x.2, a') := by
  intro is avail out hr h x hx
  obtain ⟨provs, hl, hp⟩ := compressLoopC_provs T st join reduce is avail out hr h
  obtain ⟨i, hi⟩ := List.getElem?_of_mem hx
  have hlt : i < provs.length := hl ▸ (List.getElem?_eq_some_iff.mp hi).1
  obtain ⟨hs, _, a', hb⟩ := hp i x provs[i] hi (List.getElem?_eq_getElem hlt)
  exact ⟨_, _, a', hs, hb⟩

/-- a node side seen as a k-mer port: the k-mer entry `e` at table position `p.1`, walked in direction `p.2`; the k-mer lies
    in the node as spelled iff `p.2 = s` -/
structure NodePort (T : Table D) (K : Nat) (st : Bool) (nd : Node D) (s : Dir) (p : Nat × Dir) (e : Entry D) : Prop where
  ent : T[p.1]? = some e
  term : Graph.termKmer K nd.seq s = (if p.2 = s then e.key else rc e.key)
  exts : ∀ b, has nd.exts s b ↔ has e.exts p.2 (if p.2 = s then b else comp b)
  strand : st = true → p.2 = s

def nodePort (T : Table D) (st : Bool) (join : D → D → Bool) (avail : List Nat) (seed : Nat) : Dir → Nat × Dir
  | .L => leftPort T st join avail seed
  | .R => rightPort T st join avail seed

theorem nodePort_walk (T : Table D) (st : Bool) (join : D → D → Bool) (avail : List Nat) (seed : Nat) (s : Dir) :
    ∃ a, nodePort T st join avail seed s = lastPort (Walk.walk (linkOf T st join) a seed s).1 seed s := by
  cases s
  · exact ⟨_, rfl⟩
  · exact ⟨_, rfl⟩

theorem built_node_ports {T : Table D} {K : Nat} {st : Bool} {join : D → D → Bool} (reduce : D → D → D)
    (wf : WF T K st) (hes : ExtSym T st) (avail : List Nat) (seed : Nat) (hseed : seed < T.length)
    (nd : Node D) (ids a' : List Nat) (hb : buildNodeC T st join reduce avail seed = some (nd, ids, a')) :
    K ≤ nd.seq.length ∧ ∀ s, ∃ e, NodePort T K st nd s (nodePort T st join avail seed s) e := by
  have hs : T[seed]? = some T[seed] := List.getElem?_eq_getElem hseed
  obtain ⟨el, er, hel, her, hxl, hxr⟩ := buildNodeC_exts (join := join) reduce wf hes avail seed T[seed] hs nd ids a' hb
  obtain ⟨hlen, htl, htr⟩ := buildNodeC_terms (join := join) reduce wf hes avail seed T[seed] hs nd ids a' hb
  have hstr : ∀ s, st = true → (nodePort T st join avail seed s).2 = s := by
    intro s hst
    obtain ⟨a, ha⟩ := nodePort_walk T st join avail seed s
    rw [ha]
    rcases lastPort_eq_or_mem (Walk.walk (linkOf T st join) a seed s).1 seed s with h | h
    · rw [h]
    · exact (walk_chainL T st join a seed s T[seed] hs).2.2 hst _ h
  refine ⟨hlen, fun s => ?_⟩
  cases s with
  | L =>
    show ∃ e, NodePort T K st nd .L (leftPort T st join avail seed) e
    refine ⟨el, hel, ?_, fun b => ?_, hstr .L⟩
    · show nd.seq.take K = _
      rw [htl, oL, hel]
      cases (leftPort T st join avail seed).2 <;> simp [orientL]
    · rw [hxl b]
      cases (leftPort T st join avail seed).2 <;> simp
  | R =>
    show ∃ e, NodePort T K st nd .R (rightPort T st join avail seed) e
    refine ⟨er, her, ?_, fun b => ?_, hstr .R⟩
    · show nd.seq.drop (nd.seq.length - K) = _
      rw [htr, oR, her]
      cases (rightPort T st join avail seed).2 <;> simp [orientR]
    · rw [hxr b]
      cases (rightPort T st join avail seed).2 <;> simp

end Compress

namespace Compress
open Walk (Dir rm)
open Filter (has hasExt_iff ExtSym2 back recip_eq seq_tri seq_lt_irrefl seq_lt_trans)
variable {D : Type}

def rcIf (c : Bool) (x : Seq) : Seq := if c then rc x else x

theorem rcIf_rcIf (a b : Bool) (x : Seq) : rcIf a (rcIf b x) = rcIf (xor a b) x := by
  cases a <;> cases b <;> simp [rcIf]

theorem rcIf_inj (x : Seq) (hne : rc x ≠ x) (a b : Bool) (h : rcIf a x = rcIf b x) : a = b := by
  cases a <;> cases b <;> simp [rcIf] at h ⊢
  · exact hne h.symm
  · exact hne h

theorem minRcFlip_rcIf (raw : Seq) : (minRcFlip raw).1 = rcIf (minRcFlip raw).2 raw := by
  unfold minRcFlip rcIf; split <;> simp

theorem canonSt_rcIf (st : Bool) (raw : Seq) : (canonSt st raw).1 = rcIf (canonSt st raw).2 raw := by
  cases st with
  | true => simp [canonSt, rcIf]
  | false => simp only [canonSt, Bool.false_eq_true, if_false]; exact minRcFlip_rcIf raw

theorem canonSt_flag_stranded (raw : Seq) : (canonSt true raw).2 = false := rfl

theorem key_is_canon (st : Bool) (key raw : Seq) (hc : st = false → ¬ rc key < key) (hs : st = true → key = raw)
    (h : key = raw ∨ key = rc raw) : key = (canonSt st raw).1 := by
  cases st with
  | true => simp [canonSt]; exact hs rfl
  | false =>
    have hc := hc rfl
    simp only [canonSt, Bool.false_eq_true, if_false]
    unfold minRcFlip
    rcases h with h | h
    · subst h
      by_cases hlt : key < rc key
      · simp [hlt]
      · have : key = rc key := by
          rcases seq_tri key (rc key) with h' | h' | h'
          · exact absurd h' hlt
          · exact h'
          · exact absurd h' hc
        rw [if_neg hlt]; exact this
    · subst h
      rw [rc_rc] at hc
      simp [hc]

theorem back_rc (x : Seq) (hx : x ≠ []) (d : Dir) : back (rc x) d.flip = comp (back x d) := by
  cases d with
  | L => show headB (rc x) = comp (lastB x); exact Filter.headB_rc x hx
  | R => show lastB (rc x) = comp (headB x); exact Filter.lastB_rc x hx

/-- the side on which the neighbour's k-mer records the way back is forced by the orientations -/
theorem parity_side (d pu2 s pv2 : Dir) (f fl : Bool) (hs : s = condFlip d.flip f)
    (hpar : xor (decide (pv2 ≠ s)) fl = xor f (decide (pu2 ≠ d))) : pv2 = condFlip pu2.flip fl := by
  subst hs
  revert hpar
  cases d <;> cases pu2 <;> cases pv2 <;> cases f <;> cases fl <;> decide

/-- either orientation: the pair of candidate ports is the same set -/
theorem parity_pal (d pu2 s : Dir) (f fl : Bool) (β : Base) (hs : s = condFlip d.flip f) :
    (condFlip pu2.flip fl = s ∧ (if fl then comp β else β) = (if f then comp (if pu2 = d then β else comp β) else (if pu2 = d then β else comp β))) ∨
    (condFlip pu2.flip fl = s.flip ∧ (if fl then comp β else β) = comp (if f then comp (if pu2 = d then β else comp β) else (if pu2 = d then β else comp β))) := by
  subst hs
  cases d <;> cases pu2 <;> cases f <;> cases fl <;> simp [condFlip, Dir.flip, comp_comp]

end Compress

namespace Compress
open Walk (Dir rm)
open Filter (has hasExt_iff ExtSym2 back recip_eq seq_tri seq_lt_irrefl seq_lt_trans)
open Graph (termKmer)
variable {D : Type}

theorem rcIf_self (a : Bool) (x : Seq) : rcIf a (rcIf a x) = x := by cases a <;> simp [rcIf]

theorem isPal_false_of_ne (x : Seq) (h : rc x ≠ x) : isPalindrome x = false := by
  unfold isPalindrome
  rw [beq_false_of_ne (Ne.symm h), Bool.and_false]

theorem dir_ne_iff (a b : Dir) : a ≠ b ↔ a = b.flip := by cases a <;> cases b <;> simp [Dir.flip]

section
variable {T : Table D} {K : Nat} {st : Bool} {nd : Node D} {s : Dir} {p : Nat × Dir} {ex : Entry D} (np : NodePort T K st nd s p ex)
include np

/-- the k-mer a node extension leads to is the k-mer-level extension at the port, reverse-complemented when the k-mer
    lies reverse-complemented in the node -/
theorem NodePort.extend_term (β : Base) :
    extend (termKmer K nd.seq s) β s = rcIf (decide (p.2 ≠ s)) (extend ex.key (if p.2 = s then β else comp β) p.2) := by
  rw [np.term]
  by_cases h : p.2 = s
  · simp [h, rcIf]
  · have hs : s = p.2.flip := (dir_ne_iff s p.2).mp (Ne.symm h)
    simp only [h, if_false, ne_eq, not_false_eq_true, decide_true, rcIf, if_true]
    rw [hs]
    have := Filter.extend_comp_flip (rc ex.key) (comp β) p.2
    rw [comp_comp, rc_rc] at this
    exact this

theorem NodePort.term_rcIf : termKmer K nd.seq s = rcIf (decide (p.2 ≠ s)) ex.key := by
  rw [np.term]
  by_cases h : p.2 = s <;> simp [h, rcIf]

/-- the k-mer at a port is self-complementary when the node's end is -/
theorem NodePort.key_pal (h : rc (termKmer K nd.seq s) = termKmer K nd.seq s) : rc ex.key = ex.key := by
  rw [np.term] at h
  by_cases hp : p.2 = s
  · rwa [if_pos hp] at h
  · rw [if_neg hp, rc_rc] at h
    exact h.symm

/-- the k-mer at a port, read off any spelling of the node's end -/
theorem NodePort.key_of_term (c : Bool) (x : Seq) (h : termKmer K nd.seq s = rcIf c x) :
    ex.key = rcIf (xor (decide (p.2 ≠ s)) c) x := by
  rw [← rcIf_rcIf, ← h, np.term_rcIf, rcIf_self]

/-- the base leading back into the node from beyond its end, in the coordinates of the k-mer at the port -/
theorem NodePort.back_term (hk : ex.key ≠ []) :
    back (termKmer K nd.seq s) s = if p.2 = s then back ex.key p.2 else comp (back ex.key p.2) := by
  rw [np.term]
  by_cases h : p.2 = s
  · simp only [h, if_true]
  · simp only [h, if_false]
    rw [(dir_ne_iff s p.2).mp (Ne.symm h), back_rc ex.key hk p.2]

end

theorem rcIf_cases (c : Bool) (x : Seq) : rcIf c x = x ∨ rcIf c x = rc x := by cases c <;> simp [rcIf]

theorem pair_side (a s : Dir) (R : Base) :
    (a = s ∧ (if a = s then R else comp R) = R) ∨ (a = s.flip ∧ (if a = s then R else comp R) = comp R) := by
  by_cases e : a = s
  · exact Or.inl ⟨e, if_pos e⟩
  · exact Or.inr ⟨(dir_ne_iff _ _).mp e, if_neg e⟩

/-- two ways of naming the same pair of (side, base) candidates -/
theorem pair_swap (P : Dir → Base → Prop) (a s : Dir) (X R : Base) (h : (a = s ∧ X = R) ∨ (a = s.flip ∧ X = comp R)) :
    (P a X ∨ P a.flip (comp X)) ↔ (P s R ∨ P s.flip (comp R)) := by
  rcases h with ⟨rfl, rfl⟩ | ⟨rfl, rfl⟩
  · exact Iff.rfl
  · rw [Dir.flip_flip, comp_comp]; exact Or.comm

/-- **reciprocity between two node sides**, at the level of the k-mers at their ports -/
theorem port_recipr {T : Table D} {K : Nat} {st : Bool} (wf : WF T K st) (hes2 : ExtSym2 T st)
    (nu nv : Node D) (d s : Dir) (pu pv : Nat × Dir) (eu ev : Entry D)
    (hu : NodePort T K st nu d pu eu) (hv : NodePort T K st nv s pv ev)
    (b : Base) (hb : has nu.exts d b) (f : Bool)
    (hterm : termKmer K nv.seq s = (if f then rc (extend (termKmer K nu.seq d) b d) else extend (termKmer K nu.seq d) b d))
    (hf0 : f = false → s = d.flip) (hf1 : f = true → s = d ∧ st = false) :
    has ev.exts pv.2 (if pv.2 = s then recip (termKmer K nu.seq d) d f else comp (recip (termKmer K nu.seq d) d f)) ∨
      (st = false ∧ rc ev.key = ev.key ∧
        has ev.exts pv.2.flip (comp (if pv.2 = s then recip (termKmer K nu.seq d) d f else comp (recip (termKmer K nu.seq d) d f)))) := by
  have hkne : eu.key ≠ [] := wf.key_ne_nil hu.ent
  -- the extension, in the coordinates of the k-mer at the port of `u`
  have hb' : has eu.exts pu.2 (if pu.2 = d then b else comp b) := (hu.exts b).mp hb
  generalize hbb : (if pu.2 = d then b else comp b) = b' at hb'
  generalize hraw : extend eu.key b' pu.2 = raw
  have hnk : extend (termKmer K nu.seq d) b d = rcIf (decide (pu.2 ≠ d)) raw := by
    rw [← hraw, ← hbb]; exact hu.extend_term b
  have hs : s = condFlip d.flip f := by
    cases f with
    | false => simp [condFlip, hf0 rfl]
    | true => simp [condFlip, (hf1 rfl).1]
  -- the k-mer at the port of `v` is `raw` or its reverse complement
  have hevk : ev.key = rcIf (xor (xor (decide (pv.2 ≠ s)) f) (decide (pu.2 ≠ d))) raw := by
    rw [← rcIf_rcIf, ← hnk]; exact hv.key_of_term f _ hterm
  have hmem : ev.key = raw ∨ ev.key = rc raw := hevk ▸ rcIf_cases _ raw
  -- stranded, every k-mer lies as spelled
  have hstf : st = true → pu.2 = d ∧ pv.2 = s ∧ f = false := fun hst =>
    ⟨hu.strand hst, hv.strand hst, by cases f with | false => rfl | true => rw [(hf1 rfl).2] at hst; cases hst⟩
  have hstr : st = true → ev.key = raw := by
    intro hst
    obtain ⟨h1, h2, h3⟩ := hstf hst
    rw [hevk, h1, h2, h3]; simp [rcIf]
  have hck := key_is_canon st ev.key raw (fun h => wf.canon h _ ev hv.ent) hstr hmem
  have hfind : findId T (canonSt st raw).1 = some pv.1 := by rw [← hck]; exact findId_self wf hv.ent
  have hsym := hes2 pu.1 eu pu.2 b' pv.1 ev hu.ent hb' (by rw [hraw]; exact hfind) hv.ent
  rw [hraw] at hsym
  generalize hfl : (canonSt st raw).2 = fl at hsym
  -- the base leading back, in both coordinate systems
  rw [recip_eq, hu.back_term hkne]
  rw [recip_eq] at hsym
  generalize back eu.key pu.2 = β at hsym ⊢
  by_cases hpal : rc raw = raw
  · -- the neighbour is its own reverse complement: either strand may have recorded the base
    have hevraw : ev.key = raw := by rcases hmem with h | h; exact h; rw [h, hpal]
    have hrcev : rc ev.key = ev.key := by rw [hevraw, hpal]
    cases st with
    | true =>
      obtain ⟨h1, h2, h3⟩ := hstf rfl
      have h4 : fl = false := by rw [← hfl]; rfl
      subst h3; subst h4
      rcases hsym with h | ⟨h, _⟩
      · left
        have hs' : s = d.flip := hf0 rfl
        simp only [h1, h2, hs', condFlip, Bool.false_eq_true, if_false, if_true] at h ⊢
        exact h
      · simp at h
    | false =>
      -- the two candidates `hsym` offers and the two the goal accepts are the same pair
      have key := (pair_swap (has ev.exts) pv.2 s _ _ (pair_side pv.2 s _)).mpr
        ((pair_swap (has ev.exts) _ _ _ _ (parity_pal d pu.2 s f fl β hs)).mp (hsym.imp id And.right))
      exact key.imp id fun h => ⟨rfl, hrcev, h⟩
  · -- ordinary neighbour: the orientations are determined by the strings
    left
    have hne : rc ev.key ≠ ev.key := by
      rcases hmem with h | h
      · rw [h]; exact hpal
      · rw [h, rc_rc]; exact fun e => hpal e.symm
    have hnotpal : (!st && isPalindrome ev.key) = false := by rw [isPal_false_of_ne _ hne, Bool.and_false]
    rcases hsym with h | ⟨hp, _⟩
    · have hpar : xor (decide (pv.2 ≠ s)) fl = xor f (decide (pu.2 ≠ d)) := by
        have h1 : rcIf fl raw = rcIf (xor (xor (decide (pv.2 ≠ s)) f) (decide (pu.2 ≠ d))) raw := by
          rw [← hevk, hck, ← hfl]; exact (canonSt_rcIf st raw).symm
        have := rcIf_inj raw hpal _ _ h1
        rw [this]
        cases (decide (pv.2 ≠ s)) <;> cases f <;> cases (decide (pu.2 ≠ d)) <;> rfl
      rw [parity_side d pu.2 s pv.2 f fl hs hpar]
      rcases parity_pal d pu.2 s f fl β hs with ⟨e, y⟩ | ⟨e, y⟩
      · rw [if_pos e, ← y]; exact h
      · rw [if_neg (by rw [e]; cases s <;> decide), ← y]; exact h
    · rw [hnotpal] at hp; cases hp

end Compress

namespace Compress
open Walk (Dir rm)
open Filter (has hasExt_iff ExtSym2)
open Graph (termKmer)
variable {D : Type}

theorem nodup_flatMap_index {α β : Type} (l : List α) (f : α → List β) (h : (l.flatMap f).Nodup) :
    (∀ x ∈ l, (f x).Nodup) ∧
    ∀ (i j : Nat) (hi : i < l.length) (hj : j < l.length) (a : β), a ∈ f l[i] → a ∈ f l[j] → i = j := by
  rw [List.flatMap_def, List.Nodup, List.pairwise_flatten] at h
  obtain ⟨h1, h2⟩ := h
  refine ⟨fun x hx => h1 (f x) (List.mem_map_of_mem hx), ?_⟩
  rw [List.pairwise_iff_getElem] at h2
  intro i j hi hj a hai haj
  rcases Nat.lt_trichotomy i j with hlt | heq | hgt
  · have := h2 i j (by simpa using hi) (by simpa using hj) hlt a (by simpa using hai) a (by simpa using haj)
    exact absurd rfl this
  · exact heq
  · have := h2 j i (by simpa using hj) (by simpa using hi) hgt a (by simpa using haj) a (by simpa using hai)
    exact absurd rfl this

theorem term_mem_windows (K : Nat) (s : Seq) (h : K ≤ s.length) (side : Dir) : termKmer K s side ∈ windowsOf K s := by
  obtain ⟨h1, h2⟩ := windowsOf_head_last K s h
  cases side with
  | L => exact List.mem_of_mem_head? h1
  | R => exact List.mem_of_getLast? h2

theorem single_window (K : Nat) (st : Bool) (s : Seq) (h : K ≤ s.length)
    (hnd : ((windowsOf K s).map (fun w => (canonOf st w).1)).Nodup)
    (d : Dir) (he : (canonOf st (termKmer K s d.flip)).1 = (canonOf st (termKmer K s d)).1) : s.length = K := by
  rw [windowsOf_eq K s h, List.map_map] at hnd
  rw [List.Nodup, List.pairwise_map, List.pairwise_iff_getElem] at hnd
  by_cases hlen : s.length = K
  · exact hlen
  · exfalso
    have h0 : 0 < (List.range (s.length - K + 1)).length := by simp
    have hl : s.length - K < (List.range (s.length - K + 1)).length := by simp
    have := hnd 0 (s.length - K) h0 hl (by omega)
    simp only [List.getElem_range, Function.comp] at this
    apply this
    have e1 : termKmer K s .L = (s.drop 0).take K := by simp [termKmer]
    have e2 : termKmer K s .R = (s.drop (s.length - K)).take K := by
      show s.drop (s.length - K) = _
      rw [List.take_of_length_le (by simp; omega)]
    rw [← e1, ← e2]
    cases d
    · exact he.symm
    · exact he

end Compress

namespace Compress
open Walk (Dir rm)
open Filter (has hasExt_iff ExtSym2)
open Graph (termKmer)
variable {D : Type}

theorem isPal_of_rc (k : Seq) (h : rc k = k) : isPalindrome k = true := by
  unfold isPalindrome
  have := rc_eq_self_even k h
  simp [this, h]

theorem link_not_pal (T : Table D) (st : Bool) (join : D → D → Bool) (x y : Nat) (d d' : Dir)
    (h : linkOf T st join x d = some (y, d')) (hst : st = false) :
    (∀ ex, T[x]? = some ex → rc ex.key ≠ ex.key) ∧ (∀ ey, T[y]? = some ey → rc ey.key ≠ ey.key) := by
  obtain ⟨ex, ey, b, f⟩ := linkOf_inv T st join h
  subst hst
  constructor
  · intro ex' hx' hrc
    rw [f.hx] at hx'; cases hx'
    have := f.palx
    rw [isPal_of_rc _ hrc] at this; simp at this
  · intro ey' hy' hrc
    rw [f.hy] at hy'; cases hy'
    obtain ⟨ey2, h2, k2⟩ := findId_some f.hfind
    rw [f.hy] at h2; cases h2
    have := f.paly
    rw [← k2, isPal_of_rc _ hrc] at this; simp at this

theorem lastPort_linked (link : Walk.Link) (x : Nat) (d : Dir) (p : List (Nat × Dir)) (h : LinkedFrom link x d p) :
    lastPort p x d = (x, d) ∨ ∃ x' d', link x' d' = some (lastPort p x d) := by
  induction p generalizing x d with
  | nil => exact Or.inl rfl
  | cons q t ih =>
    obtain ⟨q1, q2⟩ := q
    obtain ⟨h1, h2⟩ := h
    rw [lastPort_cons]
    rcases ih q1 q2 h2 with h3 | h3
    · right; exact ⟨x, d, by rw [h3]; exact h1⟩
    · exact Or.inr h3

/-- unstranded, no link leaves a self-complementary k-mer: a walk from it makes no step -/
theorem walk_pal_nil (T : Table D) (join : D → D → Bool) (a : List Nat) (x : Nat) (t : Dir) (e : Entry D)
    (hx : T[x]? = some e) (hrc : rc e.key = e.key) : (Walk.walk (linkOf T false join) a x t).1 = [] := by
  have hl := walk_linked (linkOf T false join) a x t
  cases hw : (Walk.walk (linkOf T false join) a x t).1 with
  | nil => rfl
  | cons q r =>
    rw [hw] at hl
    exact absurd hrc ((link_not_pal T false join x q.1 t q.2 hl.1 rfl).1 e hx)

/-- **a node with a palindromic k-mer at one of its ports consists of that k-mer alone**, and both its sides are ports of
    that k-mer, as spelled -/
theorem pal_port_single {T : Table D} {K : Nat} {join : D → D → Bool} (reduce : D → D → D)
    (wf : WF T K false) (hes : ExtSym T false) (avail : List Nat) (seed : Nat) (hseed : seed < T.length)
    (nd : Node D) (ids a' : List Nat) (hb : buildNodeC T false join reduce avail seed = some (nd, ids, a'))
    (s : Dir) (e : Entry D) (hp : NodePort T K false nd s (nodePort T false join avail seed s) e) (hrc : rc e.key = e.key) :
    nd.seq.length = K ∧ rc nd.seq = nd.seq ∧ e = T[seed] ∧ ∀ t, nodePort T false join avail seed t = (seed, t) := by
  have hs : T[seed]? = some T[seed] := List.getElem?_eq_getElem hseed
  -- the port is the seed: a palindrome is never the target of a link
  have hport : nodePort T false join avail seed s = (seed, s) := by
    obtain ⟨a, ha⟩ := nodePort_walk T false join avail seed s
    rcases lastPort_linked _ seed s _ (walk_linked (linkOf T false join) a seed s) with h | ⟨x', d', h⟩
    · rw [ha, h]
    · exfalso
      rw [← ha] at h
      exact (link_not_pal T false join x' _ d' _ h rfl).2 e hp.ent hrc
  have he : e = T[seed] := by
    have := hp.ent
    rw [hport, hs] at this
    exact (Option.some.inj this).symm
  subst he
  -- the seed is a palindrome, so no walk from it makes a step
  have hl0 : (leftW T false join avail seed).1 = [] := walk_pal_nil T join _ seed .L _ hs hrc
  have hr0 : (rightW T false join avail seed).1 = [] := walk_pal_nil T join _ seed .R _ hs hrc
  obtain ⟨nd', hb', hw, _⟩ := buildNodeC_spec (join := join) reduce wf hes avail seed T[seed] hs
  rw [hb] at hb'
  cases hb'
  rw [hl0, hr0] at hw
  have hlenK : K ≤ nd.seq.length := length_of_windowsOf_ne_nil (by rw [hw]; simp)
  have hcount : nd.seq.length = K := by
    have := congrArg List.length hw
    rw [windowsOf_length K _ hlenK] at this
    simp at this
    omega
  have hseq : [nd.seq] = [T[seed].key] := (windowsOf_single K nd.seq hcount).symm.trans hw
  refine ⟨hcount, by rw [List.singleton_inj.mp hseq]; exact hrc, rfl, fun t => ?_⟩
  cases t with
  | L => show lastPort (leftW T false join avail seed).1 seed .L = _; rw [hl0]; rfl
  | R => show lastPort (rightW T false join avail seed).1 seed .R = _; rw [hr0]; rfl

end Compress

namespace Compress
open Walk (Dir rm)
open Filter (has hasExt_iff ExtSym2)
open Graph (termKmer findLink searchKmer)
variable {D : Type}

theorem canonOf_rc (w : Seq) : (canonOf false (rc w)).1 = (canonOf false w).1 := by
  simp only [canonOf, Bool.false_eq_true, if_false]
  exact Filter.minRcFlip_rc_key w

theorem findId_isSome_of_mem (T : Table D) (k : Seq) (h : k ∈ T.map (·.key)) : ∃ y, findId T k = some y := by
  unfold findId
  apply Option.isSome_iff_exists.mp
  rw [List.findIdx?_isSome, List.any_eq_true]
  obtain ⟨e, he, hk⟩ := List.mem_map.mp h
  exact ⟨e, he, by simp [hk]⟩

theorem side_parity (s p2 s' : Dir) (f : Bool) :
    s' = condFlip s.flip (xor (xor (decide (condFlip p2.flip f ≠ s')) f) (decide (p2 ≠ s))) := by
  cases s <;> cases p2 <;> cases s' <;> cases f <;> rfl

theorem rcIf_parity (a f o : Bool) (t : Seq) : rcIf a (rcIf f t) = rcIf (xor (xor a f) o) (rcIf o t) := by
  cases a <;> cases f <;> cases o <;> simp [rcIf]

theorem findLink_isSome (g : Graph.G D) (km : Seq) (dir : Dir) (nd : Node D) (hnd : nd ∈ g.nodes) (c : Bool)
    (hterm : termKmer g.K nd.seq (condFlip dir.flip c) = rcIf c km) (hc : c = true → g.stranded = false) :
    (findLink g km dir).isSome := by
  rw [Graph.findLink_eq]
  cases h0 : searchKmer g km dir.flip with
  | some i0 => rfl
  | none =>
    cases c with
    | false =>
      have h1 := (Graph.searchKmer_complete g km dir.flip).mpr ⟨nd, hnd, hterm⟩
      rw [h0] at h1; cases h1
    | true =>
      obtain ⟨idx, hidx⟩ := Option.isSome_iff_exists.mp ((Graph.searchKmer_complete g (rc km) dir).mpr
        ⟨nd, hnd, by simpa [condFlip, rcIf] using hterm⟩)
      simp only [hc rfl, Bool.not_false, if_true, hidx]
      rfl

/-- `NodePort.extend_term`; hence the node-level and the k-mer-level target have the same canonical form. -/
theorem node_target {T : Table D} {K : Nat} {st : Bool} (nd : Node D) (s : Dir) (p : Nat × Dir) (ex : Entry D)
    (np : NodePort T K st nd s p ex) (β : Base) :
    extend (termKmer K nd.seq s) β s = rcIf (decide (p.2 ≠ s)) (extend ex.key (if p.2 = s then β else comp β) p.2) ∧
    (canonSt st (extend (termKmer K nd.seq s) β s)).1 = (canonSt st (extend ex.key (if p.2 = s then β else comp β) p.2)).1 := by
  have htn := np.extend_term β
  refine ⟨htn, ?_⟩
  rw [htn]
  by_cases h : p.2 = s
  · simp [h, rcIf]
  · have hst' : st = false := by
      cases st with
      | false => rfl
      | true => exact absurd (np.strand rfl) h
    subst hst'
    simp only [ne_eq, h, not_false_eq_true, decide_true, rcIf, if_true, canonSt, Bool.false_eq_true, if_false]
    exact Filter.minRcFlip_rc_key _

end Compress
