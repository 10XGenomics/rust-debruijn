import Dbg.Lemmas.FilterSym
import Dbg.Lemmas.Assemble
import Dbg.Lemmas.GraphLink
/-! Facts about the finished graph: edge lists, `get_valid_exts`, `sequence_of_path`, `max_path`. -/
namespace Graph
open Compress (Seq Base Exts rc extend extendRight Node windowsOf)
open Walk (Dir)
open Filter (has has_set hasExt_iff has_zero)
variable {D : Type}

theorem mem_base4 (b : Base) : b ∈ base4 := by revert b; decide

section
variable (g : G D)

theorem mem_findEdges_iff (u : Nat) (d : Dir) (es : List (Nat × Dir × Bool)) (h : findEdges g u d = some es)
    (e : Nat × Dir × Bool) :
    e ∈ es ↔ ∃ nd b, g.nodes[u]? = some nd ∧ has nd.exts d b ∧ findLink g (extend (termKmer g.K nd.seq d) b d) d = some e := by
  unfold findEdges at h
  cases hn : g.nodes[u]? with
  | none => rw [hn] at h; cases h
  | some nd =>
    rw [hn] at h
    cases h
    rw [List.mem_filterMap]
    constructor
    · rintro ⟨b, _, hb⟩
      split at hb
      · exact ⟨nd, b, rfl, (hasExt_iff nd.exts d b).mp ‹_›, hb⟩
      · cases hb
    · rintro ⟨nd', b, hnd, hb, hl⟩
      cases hnd
      exact ⟨b, mem_base4 b, by rw [if_pos ((hasExt_iff _ _ _).mpr hb)]; exact hl⟩

theorem findEdges_nodes (a : Nat) (d : Dir) (es : List (Nat × Dir × Bool)) (h : findEdges g a d = some es) :
    (g.nodes[a]?).isSome ∧ ∀ e ∈ es, (g.nodes[e.1]?).isSome := by
  constructor
  · cases hn : g.nodes[a]? with
    | none => unfold findEdges at h; rw [hn] at h; cases h
    | some u => rfl
  · intro e he
    obtain ⟨_, _, _, _, hl⟩ := (mem_findEdges_iff g a d es h e).mp he
    obtain ⟨v, hv, _⟩ := findLink_sound g _ _ e.1 e.2.1 e.2.2 hl
    rw [hv]; rfl

/-- the test `get_valid_exts` applies to extension `b` on side `d` of a node -/
def extOk (g : G D) (nd : Node D) (valid : Option (List Nat)) (d : Dir) (b : Base) : Prop :=
  ∃ t s f, findLink g (extend (termKmer g.K nd.seq d) b d) d = some (t, s, f) ∧
    (match valid with | some vs => vs.contains t | none => true) = true

def gveStep (g : G D) (nd : Node D) (chk : Nat → Bool) (acc : Exts) (b : Base) : Exts :=
  let acc := if nd.exts.hasExt .L b.val then
      (match findLink g (Compress.extendLeft (termKmer g.K nd.seq .L) b) .L with
       | some (t, _, _) => if chk t then Exts.set acc .L b.val else acc
       | none => acc) else acc
  if nd.exts.hasExt .R b.val then
      (match findLink g (Compress.extendRight (termKmer g.K nd.seq .R) b) .R with
       | some (t, _, _) => if chk t then Exts.set acc .R b.val else acc
       | none => acc) else acc

theorem getValidExts_eq (id : Nat) (valid : Option (List Nat)) (nd : Node D) (h : g.nodes[id]? = some nd) :
    getValidExts g id valid =
      some (base4.foldl (gveStep g nd (fun t => match valid with | some vs => vs.contains t | none => true)) ⟨0⟩) := by
  unfold getValidExts
  rw [h]
  rfl

def sideStep (g : G D) (nd : Node D) (chk : Nat → Bool) (acc : Exts) (d : Dir) (b : Base) : Exts :=
  if nd.exts.hasExt d b.val then
    (match findLink g (extend (termKmer g.K nd.seq d) b d) d with
     | some (t, _, _) => if chk t then Exts.set acc d b.val else acc
     | none => acc) else acc

theorem gveStep_eq (nd : Node D) (chk : Nat → Bool) (acc : Exts) (b : Base) :
    gveStep g nd chk acc b = sideStep g nd chk (sideStep g nd chk acc .L b) .R b := rfl

/-- a bit set under a condition: the bits afterwards are those before and, if the condition holds, the new one -/
theorem has_ite_set (c : Prop) [Decidable c] (acc : Exts) (d : Dir) (b : Base) (d' : Dir) (b' : Base) :
    has (if c then Exts.set acc d b.val else acc) d' b' ↔ has acc d' b' ∨ (d' = d ∧ b' = b ∧ c) := by
  by_cases hc : c
  · rw [if_pos hc, has_set]
    exact or_congr_right ⟨fun ⟨h1, h2⟩ => ⟨h1, h2, hc⟩, fun ⟨h1, h2, _⟩ => ⟨h1, h2⟩⟩
  · rw [if_neg hc]
    exact ⟨Or.inl, fun h => h.elim id fun ⟨_, _, h3⟩ => absurd h3 hc⟩

theorem side_step (nd : Node D) (valid : Option (List Nat)) (acc : Exts) (d : Dir) (b : Base) (d' : Dir) (b' : Base) :
    has (sideStep g nd (fun t => match valid with | some vs => vs.contains t | none => true) acc d b) d' b' ↔
      has acc d' b' ∨ (d' = d ∧ b' = b ∧ has nd.exts d b ∧ extOk g nd valid d b) := by
  unfold sideStep extOk
  rw [← hasExt_iff nd.exts d b]
  by_cases hh : nd.exts.hasExt d b.val = true
  · rw [if_pos hh]
    cases findLink g (extend (termKmer g.K nd.seq d) b d) d with
    | none =>
      -- nothing is set, and nothing resolves
      simp only [reduceCtorEq, false_and, exists_false, and_false, or_false]
    | some tsf =>
      obtain ⟨t, s, f⟩ := tsf
      simp only
      rw [has_ite_set]
      simp only [hh, Option.some.injEq, Prod.mk.injEq, and_assoc, exists_and_left, exists_eq_left', true_and]
  · rw [if_neg hh]
    simp only [hh, Bool.false_eq_true, false_and, and_false, or_false]

theorem gveStep_has (nd : Node D) (valid : Option (List Nat)) (acc : Exts) (b : Base) (d' : Dir) (b' : Base) :
    has (gveStep g nd (fun t => match valid with | some vs => vs.contains t | none => true) acc b) d' b' ↔
      has acc d' b' ∨ (b' = b ∧ has nd.exts d' b ∧ extOk g nd valid d' b) := by
  rw [gveStep_eq, side_step, side_step]
  constructor
  · rintro ((h | ⟨rfl, rfl, h1, h2⟩) | ⟨rfl, rfl, h1, h2⟩)
    · exact Or.inl h
    · exact Or.inr ⟨rfl, h1, h2⟩
    · exact Or.inr ⟨rfl, h1, h2⟩
  · rintro (h | ⟨rfl, h1, h2⟩)
    · exact Or.inl (Or.inl h)
    · cases d' with
      | L => exact Or.inl (Or.inr ⟨rfl, rfl, h1, h2⟩)
      | R => exact Or.inr ⟨rfl, rfl, h1, h2⟩

/-- **`get_valid_exts` is exact**: an extension is reported iff it is recorded, its extended terminal k-mer
    resolves to a node through `find_link`, and that node is valid -/
theorem getValidExts_exact (id : Nat) (valid : Option (List Nat)) (nd : Node D) (h : g.nodes[id]? = some nd) :
    ∃ e, getValidExts g id valid = some e ∧ ∀ d b, has e d b ↔ has nd.exts d b ∧ extOk g nd valid d b := by
  rw [getValidExts_eq g id valid nd h]
  refine ⟨_, rfl, fun d b => ?_⟩
  have key : ∀ (bs : List Base) (acc : Exts),
      has (bs.foldl (gveStep g nd (fun t => match valid with | some vs => vs.contains t | none => true)) acc) d b ↔
        has acc d b ∨ (b ∈ bs ∧ has nd.exts d b ∧ extOk g nd valid d b) := by
    intro bs
    induction bs with
    | nil => intro acc; simp
    | cons x t ih =>
      intro acc
      rw [List.foldl_cons, ih, gveStep_has]
      constructor
      · rintro ((h1 | ⟨rfl, h2⟩) | ⟨h3, h4⟩)
        · exact Or.inl h1
        · exact Or.inr ⟨by simp, h2⟩
        · exact Or.inr ⟨by simp [h3], h4⟩
      · rintro (h1 | ⟨h3, h4⟩)
        · exact Or.inl (Or.inl h1)
        · rcases List.mem_cons.mp h3 with rfl | ht
          · exact Or.inl (Or.inr ⟨rfl, h4⟩)
          · exact Or.inr ⟨ht, h4⟩
  rw [key]
  constructor
  · rintro (h1 | ⟨_, h2⟩)
    · exact absurd h1 (has_zero d b)
    · exact h2
  · intro h2; exact Or.inr ⟨mem_base4 b, h2⟩

/-- the sequence of a path entry in walking orientation -/
def oseq (g : G D) (p : Nat × Dir) : Seq :=
  match g.nodes[p.1]? with
  | some n => (match p.2 with | .L => n.seq | .R => rc n.seq)
  | none => []

def Ov (g : G D) (p q : Nat × Dir) : Prop :=
  (oseq g p).drop ((oseq g p).length - (g.K - 1)) = (oseq g q).take (g.K - 1)

def ChainOv (g : G D) : Nat × Dir → List (Nat × Dir) → Prop
  | _, [] => True
  | p, q :: rest => Ov g p q ∧ ChainOv g q rest

theorem orientedKmers_eq (p : Nat × Dir) (h : (g.nodes[p.1]?).isSome) : orientedKmers g p = windowsOf g.K (oseq g p) := by
  unfold orientedKmers oseq
  cases hn : g.nodes[p.1]? with
  | none => rw [hn] at h; cases h
  | some n => rfl

theorem seqStep_some (S : Seq) (p : Nat × Dir) (k : Nat) (h : (g.nodes[p.1]?).isSome) :
    seqStep g (some S) (p, k) = some (S ++ (oseq g p).drop (if k = 0 then 0 else g.K - 1)) := by
  unfold seqStep oseq
  cases hn : g.nodes[p.1]? with
  | none => rw [hn] at h; cases h
  | some n => rfl

/-- while the accumulator ends with the whole oriented sequence of the previous entry, every further entry adds exactly
    its own k-mers -/
theorem fold_tail (hK : 1 ≤ g.K) (rest : List (Nat × Dir)) :
    ∀ (k : Nat) (S0 : Seq) (prev : Nat × Dir), 1 ≤ k →
      ChainOv g prev rest → (∀ p ∈ rest, (g.nodes[p.1]?).isSome ∧ g.K ≤ (oseq g p).length) →
      ∃ S', (rest.zipIdx k).foldl (seqStep g) (some (S0 ++ oseq g prev)) = some S' ∧
        windowsOf g.K S' = windowsOf g.K (S0 ++ oseq g prev) ++ rest.flatMap (orientedKmers g) := by
  induction rest with
  | nil => intro k S0 prev _ _ _; exact ⟨_, rfl, by simp⟩
  | cons q rest ih =>
    intro k S0 prev hk hch hall
    obtain ⟨hov, hch'⟩ := hch
    obtain ⟨hq1, hq2⟩ := hall q (by simp)
    rw [List.zipIdx_cons, List.foldl_cons, seqStep_some g _ q k hq1, if_neg (by omega)]
    -- `prev` ends with the first `K-1` bases of `q`, so the new accumulator ends with the whole of `q`
    have hsplit : S0 ++ oseq g prev = (S0 ++ (oseq g prev).take ((oseq g prev).length - (g.K - 1))) ++ (oseq g q).take (g.K - 1) := by
      rw [← hov, List.append_assoc, List.take_append_drop]
    have hacc : S0 ++ oseq g prev ++ (oseq g q).drop (g.K - 1) =
        (S0 ++ (oseq g prev).take ((oseq g prev).length - (g.K - 1))) ++ oseq g q := by
      rw [hsplit, List.append_assoc _ (List.take _ _), List.take_append_drop]
    rw [hacc]
    obtain ⟨S', e, w⟩ := ih (k + 1) _ q (by omega) hch' (fun p hp => hall p (by simp [hp]))
    refine ⟨S', e, ?_⟩
    rw [w, Compress.windowsOf_append g.K _ _ hK hq2, ← hsplit, List.flatMap_cons, orientedKmers_eq g q hq1, List.append_assoc]

/-- **`sequence_of_path`**: for a path whose consecutive oriented node sequences overlap by `K-1` bases, the spelled
    sequence's k-mers are exactly the walked nodes' k-mers, in order -/
theorem sequenceOfPath_kmers (hK : 1 ≤ g.K) (p0 : Nat × Dir) (rest : List (Nat × Dir))
    (h0 : (g.nodes[p0.1]?).isSome) (hch : ChainOv g p0 rest)
    (hall : ∀ p ∈ rest, (g.nodes[p.1]?).isSome ∧ g.K ≤ (oseq g p).length) :
    ∃ S, sequenceOfPath g (p0 :: rest) = some S ∧ windowsOf g.K S = (p0 :: rest).flatMap (orientedKmers g) := by
  unfold sequenceOfPath
  rw [List.zipIdx_cons, List.foldl_cons, seqStep_some g [] p0 0 h0, if_pos rfl, List.drop_zero]
  obtain ⟨S, e, w⟩ := fold_tail g hK rest (0 + 1) [] p0 (by omega) hch hall
  exact ⟨S, e, by rw [w, List.flatMap_cons, orientedKmers_eq g p0 h0, List.nil_append]⟩

def orient : Dir → Seq → Seq
  | .L, s => s
  | .R, s => rc s

theorem oseq_eq (p : Nat × Dir) (n : Node D) (h : g.nodes[p.1]? = some n) : oseq g p = orient p.2 n.seq := by
  unfold oseq; rw [h]; cases p.2 <;> rfl

theorem orient_length (d : Dir) (s : Seq) : (orient d s).length = s.length := by
  cases d
  · rfl
  · exact Compress.rc_length s

theorem orient_flip_rc (d : Dir) (s : Seq) : orient d.flip (rc s) = orient d s := by
  cases d
  · exact Compress.rc_rc s
  · rfl

/-- walking through a node, one leaves it by the terminal k-mer of the side opposite to the one entered … -/
theorem orient_last (K : Nat) (d : Dir) (s : Seq) : (orient d s).drop (s.length - K) = orient d (termKmer K s d.flip) := by
  cases d
  · rfl
  · exact (Compress.rc_take s K).symm

/-- … and enters it by the terminal k-mer of the side entered -/
theorem orient_first (K : Nat) (d : Dir) (s : Seq) (h : K ≤ s.length) : (orient d s).take K = orient d (termKmer K s d) := by
  cases d
  · rfl
  · show (rc s).take K = rc (s.drop (s.length - K))
    rw [Compress.rc_drop, Nat.sub_sub_self h]

/-- extending the exit k-mer, in walking orientation, is always an extension to the right -/
theorem orient_extend (d : Dir) (t : Seq) (x : Base) : ∃ x', orient d (extend t x d.flip) = extendRight (orient d t) x' := by
  cases d
  · exact ⟨x, rfl⟩
  · exact ⟨_, Compress.rc_extendLeft t x⟩

theorem take_extendRight (K : Nat) (w : Seq) (x : Base) (h : w.length = K) : (extendRight w x).take (K - 1) = w.drop 1 := by
  subst h
  unfold extendRight
  rw [List.take_append_of_le_length (by rw [List.length_tail]; exact Nat.le_refl _),
    List.take_of_length_le (by rw [List.length_tail]; exact Nat.le_refl _), List.drop_one]

theorem termKmer_length (K : Nat) (s : Seq) (d : Dir) (h : K ≤ s.length) : (termKmer K s d).length = K := by
  cases d
  · exact List.length_take_of_le h
  · show (s.drop (s.length - K)).length = K
    rw [List.length_drop, Nat.sub_sub_self h]

/-- An edge is a `K-1` overlap in walking orientation: the entry `(b, db)` reached from `(a, da)` along a reported edge
    starts with the last `K-1` bases of the oriented sequence of `a`. -/
theorem edge_overlap (g : G D) (hK : 1 ≤ g.K) (a : Nat) (da : Dir) (es : List (Nat × Dir × Bool))
    (hes : findEdges g a da.flip = some es) (b : Nat) (db : Dir) (f : Bool) (he : (b, db, f) ∈ es)
    (hla : ∀ n, g.nodes[a]? = some n → g.K ≤ n.seq.length) (hlb : ∀ n, g.nodes[b]? = some n → g.K ≤ n.seq.length) :
    Ov g (a, da) (b, db) := by
  -- the edge comes from an extension base `x` of `a` resolved by `find_link`
  obtain ⟨u, x, hn, _, hx⟩ := (mem_findEdges_iff g a da.flip es hes _).mp he
  obtain ⟨v, hv, hterm, hf0, hf1⟩ := findLink_sound g _ _ _ _ _ hx
  have hul := hla u hn
  have hvl := hlb v hv
  -- in walking orientation, `b` begins with the k-mer looked up: the exit k-mer of `a` extended to the right
  have hfirst : orient db (termKmer g.K v.seq db) = orient da (extend (termKmer g.K u.seq da.flip) x da.flip) := by
    cases f with
    | false => rw [hf0 rfl, Dir.flip_flip] at hterm ⊢; rw [hterm]; rfl
    | true => rw [(hf1 rfl).1] at hterm ⊢; rw [hterm]; exact orient_flip_rc da _
  obtain ⟨x', hx'⟩ := orient_extend da (termKmer g.K u.seq da.flip) x
  have hlen : (orient da (termKmer g.K u.seq da.flip)).length = g.K := by
    rw [orient_length, termKmer_length g.K u.seq _ hul]
  unfold Ov
  rw [oseq_eq g (a, da) u hn, oseq_eq g (b, db) v hv, orient_length,
    show (orient db v.seq).take (g.K - 1) = ((orient db v.seq).take g.K).take (g.K - 1) by
      rw [List.take_take, Nat.min_eq_left (Nat.sub_le _ _)],
    orient_first g.K db v.seq hvl, hfirst, hx', take_extendRight g.K _ _ hlen, ← orient_last, List.drop_drop]
  congr 1
  omega

theorem oseq_flip (x : Nat) (d : Dir) : oseq g (x, d.flip) = rc (oseq g (x, d)) := by
  unfold oseq
  cases g.nodes[x]? with
  | none => rfl
  | some n => cases d <;> simp [Dir.flip, Compress.rc_rc]

theorem Ov_flip (a b : Nat × Dir) (hb : g.K - 1 ≤ (oseq g b).length)
    (h : Ov g (b.1, b.2.flip) (a.1, a.2.flip)) : Ov g a b := by
  unfold Ov at h ⊢
  rw [oseq_flip, oseq_flip] at h
  have h' := congrArg rc h
  rw [Compress.rc_drop, Compress.rc_take, Compress.rc_rc, Compress.rc_rc, Compress.rc_length, Compress.rc_length, Nat.sub_sub_self hb] at h'
  exact h'.symm

/-- a step of a walk follows a reported edge, in either direction (the statement of `stepValid`) -/
def StepOK (g : G D) (a b : Nat × Dir) : Prop :=
  (∃ es f, findEdges g a.1 a.2.flip = some es ∧ (b.1, b.2, f) ∈ es) ∨
  (∃ es f, findEdges g b.1 b.2 = some es ∧ (a.1, a.2.flip, f) ∈ es)

def ChainStep (g : G D) : Nat × Dir → List (Nat × Dir) → Prop
  | _, [] => True
  | p, q :: rest => StepOK g p q ∧ ChainStep g q rest

theorem oseq_length (p : Nat × Dir) (n : Node D) (h : g.nodes[p.1]? = some n) : (oseq g p).length = n.seq.length := by
  rw [oseq_eq g p n h, orient_length]

theorem step_overlap (hK : 1 ≤ g.K) (a b : Nat × Dir) (h : StepOK g a b)
    (hl : ∀ (i : Nat) (n : Node D), g.nodes[i]? = some n → g.K ≤ n.seq.length)
    (hb : (g.nodes[b.1]?).isSome) : Ov g a b := by
  rcases h with ⟨es, f, he, hm⟩ | ⟨es, f, he, hm⟩
  · exact edge_overlap g hK a.1 a.2 es he b.1 b.2 f hm (hl a.1) (hl b.1)
  · obtain ⟨nb, hnb⟩ := Option.isSome_iff_exists.mp hb
    apply Ov_flip g a b (by rw [oseq_length g b nb hnb]; have := hl b.1 nb hnb; omega)
    exact edge_overlap g hK b.1 b.2.flip es (by rw [Dir.flip_flip]; exact he) a.1 a.2.flip f hm (hl b.1) (hl a.1)

/-- **walks spell their nodes**: for any walk whose steps follow reported edges (either direction), in a graph whose
    nodes have at least `K` bases, `sequence_of_path` never panics and the k-mers of the spelled sequence are exactly
    the walked nodes' k-mers in walking orientation, in order -/
theorem walk_sequence (hK : 1 ≤ g.K) (hl : ∀ (i : Nat) (n : Node D), g.nodes[i]? = some n → g.K ≤ n.seq.length)
    (p0 : Nat × Dir) (rest : List (Nat × Dir)) (h0 : (g.nodes[p0.1]?).isSome) (hall : ∀ p ∈ rest, (g.nodes[p.1]?).isSome)
    (hch : ChainStep g p0 rest) :
    ∃ S, sequenceOfPath g (p0 :: rest) = some S ∧ windowsOf g.K S = (p0 :: rest).flatMap (orientedKmers g) := by
  have hlen : ∀ p : Nat × Dir, (g.nodes[p.1]?).isSome → g.K ≤ (oseq g p).length := by
    intro p hp
    obtain ⟨n, hn⟩ := Option.isSome_iff_exists.mp hp
    rw [oseq_length g p n hn]; exact hl p.1 n hn
  have hov : ∀ (rest : List (Nat × Dir)) (p : Nat × Dir), (g.nodes[p.1]?).isSome → (∀ q ∈ rest, (g.nodes[q.1]?).isSome) →
      ChainStep g p rest → ChainOv g p rest := by
    intro rest
    induction rest with
    | nil => intro p _ _ _; trivial
    | cons q rest ih =>
      intro p hp hq hc
      exact ⟨step_overlap g hK p q hc.1 hl (hq q (by simp)), ih q (hq q (by simp)) (fun x hx => hq x (by simp [hx])) hc.2⟩
  exact sequenceOfPath_kmers g hK p0 rest h0 (hov rest p0 h0 hall hch) (fun p hp => ⟨hall p hp, hlen p (hall p hp)⟩)

end

section
variable (g : G D) (score : D → Int) (solid : D → Bool)

theorem pickNext_mem (edges : List (Nat × Dir × Bool)) (id : Nat) (dir : Dir)
    (h : (pickNext g score solid edges).1 = some (id, dir)) : ∃ f, (id, dir, f) ∈ edges := by
  unfold pickNext at h
  have key : ∀ (es : List (Nat × Dir × Bool)) (acc : Option (Nat × Dir) × Nat),
      (es.foldl (fun (acc : Option (Nat × Dir) × Nat) (e : Nat × Dir × Bool) =>
        let cand : Option (Nat × Dir) := some (e.1, e.2.1)
        let sp := if nodeSolid g solid e.1 then acc.2 + 1 else acc.2
        (if optScore g score acc.1 < optScore g score cand then cand else acc.1, sp)) acc).1 = some (id, dir) →
      acc.1 = some (id, dir) ∨ ∃ f, (id, dir, f) ∈ es := by
    intro es
    induction es with
    | nil => intro acc h; exact Or.inl h
    | cons e t ih =>
      intro acc h
      rw [List.foldl_cons] at h
      rcases ih _ h with h1 | ⟨f, hf⟩
      · simp only at h1
        split at h1
        · simp only [Option.some.injEq, Prod.mk.injEq] at h1
          exact Or.inr ⟨e.2.2, by rw [← h1.1, ← h1.2]; simp⟩
        · exact Or.inl h1
      · exact Or.inr ⟨f, by simp [hf]⟩
  rcases key edges (none, 0) h with h1 | h1
  · cases h1
  · exact h1

/-- the decision an arm of `max_path` takes at `cur`: the entry it moves to, or `none` if it stops there -/
def armNext (g : G D) (score : D → Int) (solid : D → Bool) (cur : Nat × Dir) (used : List Nat) : Option (Nat × Dir) :=
  match findEdges g cur.1 cur.2.flip with
  | none => none
  | some edges =>
    if (pickNext g score solid edges).2 > 1 then none
    else match (pickNext g score solid edges).1 with
      | some (nid, ninc) => if used.contains nid then none else some (nid, ninc)
      | none => none

theorem maxPathArm_succ (doFlip : Bool) (fuel : Nat) (cur : Nat × Dir)
    (used : List Nat) (path : List (Nat × Dir)) :
    maxPathArm g score solid doFlip (fuel + 1) cur used path =
      match armNext g score solid cur used with
      | none => (path, used)
      | some nx => maxPathArm g score solid doFlip fuel nx (nx.1 :: used)
          (if doFlip then (nx.1, nx.2.flip) :: path else path ++ [nx]) := by
  unfold armNext
  rw [maxPathArm]
  cases findEdges g cur.1 cur.2.flip with
  | none => rfl
  | some edges =>
    simp only
    by_cases h : (pickNext g score solid edges).2 > 1
    · simp only [if_pos h]
    · simp only [if_neg h]
      rcases (pickNext g score solid edges).1 with _ | ⟨nid, ninc⟩
      · rfl
      · simp only
        by_cases hc : used.contains nid = true
        · simp only [if_pos hc]
        · simp only [if_neg hc]

theorem armNext_some (cur : Nat × Dir) (used : List Nat) (nx : Nat × Dir)
    (h : armNext g score solid cur used = some nx) :
    (∃ edges f, findEdges g cur.1 cur.2.flip = some edges ∧ (nx.1, nx.2, f) ∈ edges) ∧ nx.1 ∉ used ∧ nx.1 < g.nodes.length := by
  unfold armNext at h
  cases he : findEdges g cur.1 cur.2.flip with
  | none => rw [he] at h; cases h
  | some edges =>
    rw [he] at h
    simp only at h
    split at h
    · cases h
    · cases hp : (pickNext g score solid edges).1 with
      | none => rw [hp] at h; cases h
      | some nn =>
        obtain ⟨nid, ninc⟩ := nn
        rw [hp] at h
        simp only at h
        split at h
        · cases h
        · rename_i hc
          cases h
          obtain ⟨f, hf⟩ := pickNext_mem g score solid edges nid ninc hp
          obtain ⟨n, hn⟩ := Option.isSome_iff_exists.mp ((findEdges_nodes g cur.1 cur.2.flip edges he).2 _ hf)
          exact ⟨⟨edges, f, rfl, hf⟩, by simpa using hc, (List.getElem?_eq_some_iff.mp hn).1⟩

structure IsWalk (g : G D) (path : List (Nat × Dir)) : Prop where
  chain : ∀ p rest, path = p :: rest → ChainStep g p rest
  nodes : ∀ p ∈ path, (g.nodes[p.1]?).isSome
  nodup : (path.map Prod.fst).Nodup

theorem chainStep_append (p : Nat × Dir) (rest : List (Nat × Dir)) (q : Nat × Dir)
    (h : ChainStep g p rest) (hl : StepOK g ((p :: rest).getLast (by simp)) q) : ChainStep g p (rest ++ [q]) := by
  induction rest generalizing p with
  | nil => exact ⟨by simpa using hl, trivial⟩
  | cons r t ih =>
    refine ⟨h.1, ih r h.2 ?_⟩
    simpa [List.getLast_cons] using hl

theorem chain_snoc (path : List (Nat × Dir)) (cur q : Nat × Dir)
    (hch : ∀ p rest, path = p :: rest → ChainStep g p rest) (hlast : path.getLast? = some cur) (hstep : StepOK g cur q) :
    ∀ p rest, path ++ [q] = p :: rest → ChainStep g p rest := by
  obtain ⟨p0, rest0, rfl⟩ := List.exists_cons_of_ne_nil (show path ≠ [] by intro e; rw [e] at hlast; cases hlast)
  intro p rest hpe
  rw [List.cons_append] at hpe
  cases hpe
  apply chainStep_append g p0 rest0 q (hch p0 rest0 rfl)
  rw [List.getLast?_eq_some_getLast (List.cons_ne_nil _ _)] at hlast
  rw [Option.some.inj hlast]
  exact hstep

/-- the right arm: entries are appended; the current entry is the last of the path -/
theorem arm_right (fuel : Nat) :
    ∀ (cur : Nat × Dir) (used : List Nat) (path : List (Nat × Dir)), path.getLast? = some cur → IsWalk g path →
      (∀ p ∈ path, p.1 ∈ used) →
      IsWalk g (maxPathArm g score solid false fuel cur used path).1 ∧
      (∀ p ∈ (maxPathArm g score solid false fuel cur used path).1, p.1 ∈ (maxPathArm g score solid false fuel cur used path).2) ∧
      (maxPathArm g score solid false fuel cur used path).1.head? = path.head? := by
  induction fuel with
  | zero => intro cur used path _ hw hu; exact ⟨hw, hu, rfl⟩
  | succ fuel ih =>
    intro cur used path hlast hw hu
    rw [maxPathArm_succ]
    cases hnx : armNext g score solid cur used with
    | none => exact ⟨hw, hu, rfl⟩
    | some nx =>
      obtain ⟨⟨edges, f, he, hf⟩, hnid, hlt⟩ := armNext_some g score solid cur used nx hnx
      simp only [Bool.false_eq_true, if_false]
      obtain ⟨p0, rest, hpr⟩ := List.exists_cons_of_ne_nil (show path ≠ [] by intro e; rw [e] at hlast; cases hlast)
      have hw' : IsWalk g (path ++ [nx]) := by
        refine ⟨?_, ?_, ?_⟩
        · exact chain_snoc g path cur nx hw.chain hlast (Or.inl ⟨edges, f, he, hf⟩)
        · intro p hp'
          rcases List.mem_append.mp hp' with h1 | h1
          · exact hw.nodes p h1
          · rw [List.mem_singleton.mp h1, List.getElem?_eq_getElem hlt]; rfl
        · rw [List.map_append, List.nodup_append]
          refine ⟨hw.nodup, by simp, ?_⟩
          intro a ha b hb
          rw [List.mem_singleton.mp hb]
          obtain ⟨p, hp', rfl⟩ := List.mem_map.mp ha
          intro e; exact hnid (e ▸ hu p hp')
      obtain ⟨r1, r2, r3⟩ := ih nx (nx.1 :: used) (path ++ [nx]) (by simp) hw'
        (fun p hp' => by
          rcases List.mem_append.mp hp' with h1 | h1
          · exact List.mem_cons_of_mem _ (hu p h1)
          · rw [List.mem_singleton.mp h1]; exact List.mem_cons_self ..)
      refine ⟨r1, r2, ?_⟩
      rw [r3, hpr]; rfl

/-- the left arm: entries are prepended with the side flipped; the head of the path is the current entry seen from
    the other side -/
theorem arm_left (fuel : Nat) :
    ∀ (cur : Nat × Dir) (used : List Nat) (path : List (Nat × Dir)), path.head? = some (cur.1, cur.2.flip) → IsWalk g path →
      (∀ p ∈ path, p.1 ∈ used) →
      IsWalk g (maxPathArm g score solid true fuel cur used path).1 := by
  induction fuel with
  | zero => intro cur used path _ hw _; exact hw
  | succ fuel ih =>
    intro cur used path hhead hw hu
    rw [maxPathArm_succ]
    cases hnx : armNext g score solid cur used with
    | none => exact hw
    | some nx =>
      obtain ⟨⟨edges, f, he, hf⟩, hnid, hlt⟩ := armNext_some g score solid cur used nx hnx
      simp only [if_true]
      obtain ⟨p0, rest, hpr⟩ := List.exists_cons_of_ne_nil (show path ≠ [] by intro e; rw [e] at hhead; cases hhead)
      have hp0 : p0 = (cur.1, cur.2.flip) := by rw [hpr] at hhead; exact Option.some.inj hhead
      have hw' : IsWalk g ((nx.1, nx.2.flip) :: path) := by
        refine ⟨?_, ?_, ?_⟩
        · intro p r hpe
          cases hpe
          rw [hpr]
          -- the edge found from the current node, read backwards
          refine ⟨?_, hw.chain p0 rest hpr⟩
          rw [hp0]
          exact Or.inr ⟨edges, f, he, by rw [Dir.flip_flip]; exact hf⟩
        · intro p hp'
          rcases List.mem_cons.mp hp' with h1 | h1
          · rw [h1, List.getElem?_eq_getElem hlt]; rfl
          · exact hw.nodes p h1
        · rw [List.map_cons, List.nodup_cons]
          refine ⟨?_, hw.nodup⟩
          intro hm
          obtain ⟨p, hp', e⟩ := List.mem_map.mp hm
          have e' : p.1 = nx.1 := e
          exact hnid (e' ▸ hu p hp')
      exact ih nx (nx.1 :: used) ((nx.1, nx.2.flip) :: path) rfl hw'
        (fun p hp' => by
          rcases List.mem_cons.mp hp' with h1 | h1
          · rw [h1]; exact List.mem_cons_self ..
          · exact List.mem_cons_of_mem _ (hu p h1))

def bestStep (score : D → Int) (acc : Nat × Option Int) (ni : Node D × Nat) : Nat × Option Int :=
  match acc.2 with
  | none => (ni.2, some (score ni.1.data))
  | some bs => if score ni.1.data > bs then (ni.2, some (score ni.1.data)) else acc

theorem bestIdx_lt (score : D → Int) (nodes : List (Node D)) (k : Nat) (acc : Nat × Option Int) (n : Nat)
    (hacc : acc.1 < n) (hn : k + nodes.length ≤ n) :
    ((nodes.zipIdx k).foldl (bestStep score) acc).1 < n := by
  induction nodes generalizing k acc with
  | nil => exact hacc
  | cons a t ih =>
    rw [List.zipIdx_cons, List.foldl_cons]
    simp only [List.length_cons] at hn
    apply ih (k + 1) _ _ (by omega)
    unfold bestStep
    split
    · show k < n; omega
    · split
      · show k < n; omega
      · exact hacc

theorem maxPath_eq (hne : g.nodes.isEmpty = false) :
    maxPath g score solid =
      (let best := (g.nodes.zipIdx.foldl (bestStep score) (0, none)).1
       (maxPathArm g score solid true g.nodes.length (best, .R)
          (maxPathArm g score solid false g.nodes.length (best, .L) [best] [(best, .L)]).2
          (maxPathArm g score solid false g.nodes.length (best, .L) [best] [(best, .L)]).1).1) := by
  unfold maxPath
  rw [hne]
  rfl

/-- **`max_path` returns a walk**: consecutive entries follow reported edges, every node exists, no node is visited twice -/
theorem maxPath_walk (g : G D) (score : D → Int) (solid : D → Bool) : IsWalk g (maxPath g score solid) := by
  by_cases hne : g.nodes.isEmpty = true
  · unfold maxPath; rw [if_pos hne]
    exact ⟨fun p r h => (by cases h), fun p hp => (by cases hp), List.nodup_nil⟩
  · have hne' : g.nodes.isEmpty = false := by simpa using hne
    rw [maxPath_eq g score solid hne']
    simp only
    generalize hb : (g.nodes.zipIdx.foldl (bestStep score) (0, none)).1 = best
    have hpos : 0 < g.nodes.length := by
      cases hn : g.nodes with
      | nil => rw [hn] at hne'; simp at hne'
      | cons a t => simp
    have hbest : best < g.nodes.length := by
      rw [← hb]; exact bestIdx_lt score g.nodes 0 (0, none) _ hpos (by omega)
    have hw0 : IsWalk g [(best, Dir.L)] :=
      ⟨fun p r h => by cases h; trivial, fun p hp => by
        rw [List.mem_singleton.mp hp, List.getElem?_eq_getElem hbest]; rfl, by simp⟩
    obtain ⟨w1, u1, h1⟩ := arm_right g score solid g.nodes.length (best, .L) [best] [(best, .L)] rfl hw0
      (fun p hp => by rw [List.mem_singleton.mp hp]; exact List.mem_cons_self ..)
    exact arm_left g score solid g.nodes.length (best, .R) _ _ (by rw [h1]; rfl) w1 u1

end

end Graph
