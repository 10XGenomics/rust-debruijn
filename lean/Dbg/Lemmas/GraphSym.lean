import Dbg.Lemmas.GraphProofs
/-! Edge symmetry of a finished graph from its node-level invariant. -/
namespace Graph
open Compress (Seq Base Exts rc extend Node recip)
open Walk (Dir)
open Filter (has hasExt_iff)
variable {D : Type}
variable (g : G D)

/-- the palindromic single-k-mer node: the only node whose two ends cannot be told apart -/
def PalNode (g : G D) (u : Nat) : Prop :=
  ∃ nu, g.nodes[u]? = some nu ∧ g.stranded = false ∧ nu.seq.length = g.K ∧ rc nu.seq = nu.seq

/-- node-level invariant of the graphs the crate builds: nodes have at least `K` bases; a terminal k-mer identifies its
    node and side (unstranded: up to reverse complement, a single-k-mer node being the only node whose two ends coincide);
    recorded extensions are reciprocal (a palindromic single-k-mer node records them as seen from either strand) -/
structure SeqInv (g : G D) : Prop where
  kpos : 1 ≤ g.K
  len : ∀ (i : Nat) (n : Node D), g.nodes[i]? = some n → g.K ≤ n.seq.length
  sameSide : ∀ (i j : Nat) (ni nj : Node D) (s : Dir), g.nodes[i]? = some ni → g.nodes[j]? = some nj →
    termKmer g.K ni.seq s = termKmer g.K nj.seq s → i = j
  rcSide : ∀ (i j : Nat) (ni nj : Node D) (s : Dir), g.stranded = false → g.nodes[i]? = some ni → g.nodes[j]? = some nj →
    termKmer g.K ni.seq s.flip = rc (termKmer g.K nj.seq s) → i = j ∧ ni.seq.length = g.K

structure GInv (g : G D) : Prop extends SeqInv g where
  recipr : ∀ (u v : Nat) (nu nv : Node D) (d s : Dir) (b : Base) (f : Bool), g.nodes[u]? = some nu → g.nodes[v]? = some nv →
    has nu.exts d b → findLink g (extend (termKmer g.K nu.seq d) b d) d = some (v, s, f) →
    has nv.exts s (recip (termKmer g.K nu.seq d) d f) ∨
      (PalNode g v ∧ has nv.exts s.flip (Compress.comp (recip (termKmer g.K nu.seq d) d f)))

theorem getElem?_lt {α} {l : List α} {i : Nat} {a : α} (h : l[i]? = some a) : i < l.length :=
  (List.getElem?_eq_some_iff.mp h).1

theorem mem_dirs (d : Dir) : d ∈ [Dir.L, Dir.R] := by cases d <;> simp

theorem searchKmer_unique (hg : SeqInv g) (u : Nat) (nu : Node D) (hu : g.nodes[u]? = some nu) (s : Dir) :
    searchKmer g (termKmer g.K nu.seq s) s = some u := by
  unfold searchKmer
  rw [List.findIdx?_eq_some_iff_getElem]
  have hlt : u < g.nodes.length := getElem?_lt hu
  have hnu : g.nodes[u] = nu := by rw [List.getElem?_eq_getElem hlt] at hu; exact Option.some.inj hu
  refine ⟨hlt, by simp [hnu], ?_⟩
  intro j hj
  have hjl : j < g.nodes.length := by omega
  intro hcontra
  have := hg.sameSide j u g.nodes[j] nu s (List.getElem?_eq_getElem hjl) hu (by simpa using hcontra)
  omega

theorem termKmer_ne_nil (hg : SeqInv g) (u : Nat) (nu : Node D) (hu : g.nodes[u]? = some nu) (s : Dir) :
    termKmer g.K nu.seq s ≠ [] := by
  intro e
  have h1 := termKmer_length g.K nu.seq s (hg.len u nu hu)
  have h2 := hg.kpos
  rw [e, List.length_nil] at h1
  omega

theorem termKmer_single (K : Nat) (s : Seq) (h : s.length = K) (d : Dir) : termKmer K s d = s := by
  cases d with
  | L => show s.take K = s; rw [← h, List.take_length]
  | R => show s.drop (s.length - K) = s; rw [h, Nat.sub_self, List.drop_zero]

theorem lookup_direct (hg : SeqInv g) (u : Nat) (nu : Node D) (hu : g.nodes[u]? = some nu) (d : Dir) :
    findLink g (termKmer g.K nu.seq d) d.flip = some (u, d, false) := by
  rw [findLink_eq, Dir.flip_flip, searchKmer_unique g hg u nu hu d]

theorem lookup_flipped (hg : SeqInv g) (hst : g.stranded = false) (u : Nat) (nu : Node D) (hu : g.nodes[u]? = some nu) (d : Dir) :
    findLink g (rc (termKmer g.K nu.seq d)) d = some (u, d, true) ∨
      (nu.seq.length = g.K ∧ rc nu.seq = nu.seq ∧ findLink g (rc (termKmer g.K nu.seq d)) d = some (u, d.flip, false)) := by
  rw [findLink_eq]
  cases hw : searchKmer g (rc (termKmer g.K nu.seq d)) d.flip with
  | some w =>
    -- some node carries the reverse complement at its facing end: it is `u` itself, a single self-complementary k-mer
    obtain ⟨nw, hnw, htw⟩ := searchKmer_sound g _ _ _ hw
    obtain ⟨hwu, hlen⟩ := hg.rcSide w u nw nu d hst hnw hu htw
    subst hwu
    rw [hu] at hnw; cases hnw
    rw [termKmer_single g.K nu.seq hlen, termKmer_single g.K nu.seq hlen] at htw
    exact Or.inr ⟨hlen, htw.symm, rfl⟩
  | none =>
    left
    simp only [hst, Bool.not_false, if_true, Compress.rc_rc]
    rw [searchKmer_unique g hg u nu hu d]

/-- `v` reports an edge back to `u`: from the facing side `s` (or from either side if `v` is a palindromic single-k-mer
    node), arriving at side `d` of `u` (or at either side if `u` is a single-k-mer node whose k-mer is its own reverse
    complement) -/
def ReachesBack (g : G D) (u : Nat) (d : Dir) (v : Nat) (s : Dir) : Prop :=
  ∃ s' es' d' f', findEdges g v s' = some es' ∧ (u, d', f') ∈ es' ∧ (s' = s ∨ PalNode g v) ∧
    (d' = d ∨ ∃ nu, g.nodes[u]? = some nu ∧ nu.seq.length = g.K)

/-- The way back along a link: extending the end `kv` that the link arrived at by the reciprocal base and looking it up
    finds `u` — on side `d`, unless `u` is a self-complementary single k-mer. -/
theorem lookup_back (hg : SeqInv g) (u : Nat) (nu : Node D) (hu : g.nodes[u]? = some nu) (d : Dir) (b : Base)
    (kv : Seq) (s : Dir) (f : Bool)
    (hterm : kv = if f then rc (extend (termKmer g.K nu.seq d) b d) else extend (termKmer g.K nu.seq d) b d)
    (hf0 : f = false → s = d.flip) (hf1 : f = true → s = d ∧ g.stranded = false) :
    ∃ d' f', findLink g (extend kv (recip (termKmer g.K nu.seq d) d f) s) s = some (u, d', f') ∧
      (d' = d ∨ (g.stranded = false ∧ nu.seq.length = g.K ∧ rc nu.seq = nu.seq)) := by
  have hne := termKmer_ne_nil g hg u nu hu d
  cases f with
  | false =>
    rw [hterm, hf0 rfl, if_neg Bool.false_ne_true, Compress.extend_back _ b d hne]
    exact ⟨d, false, lookup_direct g hg u nu hu d, Or.inl rfl⟩
  | true =>
    obtain ⟨hs, hst⟩ := hf1 rfl
    rw [hterm, hs, if_pos rfl, Compress.extend_back_flip _ b d hne]
    rcases lookup_flipped g hg hst u nu hu d with h1 | ⟨hlen, hrcu, h1⟩
    · exact ⟨d, true, h1, Or.inl rfl⟩
    · exact ⟨d.flip, false, h1, Or.inr ⟨hst, hlen, hrcu⟩⟩

/-- `lookup_back` for a link found by `find_link`; a palindromic single-k-mer target `v` is equally the target of the same
    link flipped, arriving at its other side, so it leads back from there too, by the complemented base -/
theorem back_link_sides (hg : SeqInv g) (u v : Nat) (nu nv : Node D) (d s : Dir) (b : Base) (f : Bool)
    (hu : g.nodes[u]? = some nu) (hv : g.nodes[v]? = some nv)
    (hl : findLink g (extend (termKmer g.K nu.seq d) b d) d = some (v, s, f)) :
    (∃ d' f', findLink g (extend (termKmer g.K nv.seq s) (recip (termKmer g.K nu.seq d) d f) s) s = some (u, d', f') ∧
      (d' = d ∨ (g.stranded = false ∧ nu.seq.length = g.K ∧ rc nu.seq = nu.seq))) ∧
    (PalNode g v → ∃ d' f', findLink g (extend (termKmer g.K nv.seq s.flip)
        (Compress.comp (recip (termKmer g.K nu.seq d) d f)) s.flip) s.flip = some (u, d', f') ∧
      (d' = d ∨ (g.stranded = false ∧ nu.seq.length = g.K ∧ rc nu.seq = nu.seq))) := by
  obtain ⟨nv', hv', hterm, hf0, hf1⟩ := findLink_sound g _ _ _ _ _ hl
  rw [hv] at hv'; cases hv'
  refine ⟨lookup_back g hg u nu hu d b _ s f hterm hf0 hf1, ?_⟩
  rintro ⟨nv', hv', hst, hvl, hvp⟩
  rw [hv] at hv'; cases hv'
  rw [termKmer_single g.K nv.seq hvl] at hterm ⊢
  have hcomp : Compress.comp (recip (termKmer g.K nu.seq d) d f) = recip (termKmer g.K nu.seq d) d (!f) := by
    unfold recip; cases f
    · rfl
    · exact Compress.comp_comp _
  rw [hcomp]
  apply lookup_back g hg u nu hu d b nv.seq s.flip (!f)
  · cases f with
    | false => rw [← hvp, hterm]; rfl
    | true => rw [← hvp, hterm, if_pos rfl, Compress.rc_rc]; rfl
  · intro hf; rw [(hf1 (by simpa using hf)).1]
  · intro hf; rw [hf0 (by simpa using hf), Dir.flip_flip]; exact ⟨rfl, hst⟩

/-- **edges are symmetric**: if `(v, s, f)` is reported from side `d` of `u`, then `v` reports `u` back -/
theorem edges_symmetric (g : G D) (hg : GInv g) (u : Nat) (d : Dir) (es : List (Nat × Dir × Bool))
    (he : findEdges g u d = some es) (v : Nat) (s : Dir) (f : Bool) (hm : (v, s, f) ∈ es) : ReachesBack g u d v s := by
  obtain ⟨nu, b, hu, hb, hl⟩ := (mem_findEdges_iff g u d es he _).mp hm
  obtain ⟨nv, hv, _⟩ := findLink_sound g _ _ _ _ _ hl
  obtain ⟨hback, hbackPal⟩ := back_link_sides g hg.toSeqInv u v nu nv d s b f hu hv hl
  -- `v` records the reciprocal base on side `s`, or (palindromic single k-mer) its complement on the other side
  have report : ∀ (s' : Dir) (r : Base), has nv.exts s' r → (s' = s ∨ PalNode g v) →
      (∃ d' f', findLink g (extend (termKmer g.K nv.seq s') r s') s' = some (u, d', f') ∧
        (d' = d ∨ (g.stranded = false ∧ nu.seq.length = g.K ∧ rc nu.seq = nu.seq))) → ReachesBack g u d v s := by
    rintro s' r hr hs' ⟨d', f', hl', hd'⟩
    obtain ⟨nd, hnd⟩ : ∃ es', findEdges g v s' = some es' := ⟨_, by unfold findEdges; rw [hv]⟩
    exact ⟨s', nd, d', f', hnd, (mem_findEdges_iff g v s' nd hnd _).mpr ⟨nv, r, hv, hr, hl'⟩, hs',
      hd'.imp id fun h => ⟨nu, hu, h.2.1⟩⟩
  rcases hg.recipr u v nu nv d s b f hu hv hb hl with hrec | ⟨hpal, hrec⟩
  · exact report s _ hrec (Or.inl rfl) hback
  · exact report s.flip _ hrec (Or.inr hpal) (hbackPal hpal)

end Graph

namespace Graph
open Compress (Seq Base Exts rc extend Node recip)
open Walk (Dir)
open Filter (has hasExt_iff)
variable {D : Type}
variable (g : G D)

def palNodeB (g : G D) (v : Nat) : Bool :=
  match g.nodes[v]? with
  | some n => !g.stranded && n.seq.length == g.K && rc n.seq == n.seq
  | none => false

theorem palNodeB_sound (v : Nat) (h : palNodeB g v = true) : PalNode g v := by
  unfold palNodeB at h
  cases hn : g.nodes[v]? with
  | none => rw [hn] at h; cases h
  | some n =>
    rw [hn] at h
    simp only [Bool.and_eq_true, Bool.not_eq_true', beq_iff_eq] at h
    exact ⟨n, hn, h.1.1, h.1.2, h.2⟩

/-- executable form of `GInv` (evaluated by the driver on the graphs the crate builds) -/
def ginvOK (g : G D) : Bool :=
  decide (1 ≤ g.K) &&
  g.nodes.all (fun n => decide (g.K ≤ n.seq.length)) &&
  (List.range g.nodes.length).all (fun i => (List.range g.nodes.length).all fun j => [Dir.L, Dir.R].all fun s =>
    match g.nodes[i]?, g.nodes[j]? with
    | some ni, some nj =>
      (termKmer g.K ni.seq s != termKmer g.K nj.seq s || i == j) &&
      (g.stranded || termKmer g.K ni.seq s.flip != rc (termKmer g.K nj.seq s) || (i == j && ni.seq.length == g.K))
    | _, _ => true) &&
  (List.range g.nodes.length).all (fun u => [Dir.L, Dir.R].all fun d => base4.all fun b =>
    match g.nodes[u]? with
    | some nu =>
      !nu.exts.hasExt d b.val ||
      (match findLink g (extend (termKmer g.K nu.seq d) b d) d with
       | some (v, s, f) =>
         (match g.nodes[v]? with
          | some nv => nv.exts.hasExt s (recip (termKmer g.K nu.seq d) d f).val ||
              (palNodeB g v && nv.exts.hasExt s.flip (Compress.comp (recip (termKmer g.K nu.seq d) d f)).val)
          | none => true)
       | none => true)
    | none => true)

theorem ginvOK_sound (h : ginvOK g = true) : GInv g := by
  unfold ginvOK at h
  simp only [Bool.and_eq_true, decide_eq_true_eq, List.all_eq_true] at h
  obtain ⟨⟨⟨hk, hlen⟩, hends⟩, hrec⟩ := h
  refine ⟨⟨hk, ?_, ?_, ?_⟩, ?_⟩
  · intro i n hi
    exact hlen n (List.mem_of_getElem? hi)
  · intro i j ni nj s hi hj ht
    have := hends i (List.mem_range.mpr (getElem?_lt hi)) j (List.mem_range.mpr (getElem?_lt hj)) s (mem_dirs s)
    rw [hi, hj] at this
    simp only [Bool.and_eq_true, Bool.or_eq_true, bne_iff_ne, ne_eq, beq_iff_eq] at this
    rcases this.1 with h1 | h1
    · exact absurd ht h1
    · exact h1
  · intro i j ni nj s hst hi hj ht
    have := hends i (List.mem_range.mpr (getElem?_lt hi)) j (List.mem_range.mpr (getElem?_lt hj)) s (mem_dirs s)
    rw [hi, hj] at this
    simp only [Bool.and_eq_true, Bool.or_eq_true, bne_iff_ne, ne_eq, beq_iff_eq, hst, Bool.false_eq_true, false_or] at this
    rcases this.2 with h1 | h1
    · exact absurd ht h1
    · exact h1
  · intro u v nu nv d s b f hu hv hb hl
    have := hrec u (List.mem_range.mpr (getElem?_lt hu)) d (mem_dirs d) b (mem_base4 b)
    rw [hu] at this
    simp only [Bool.or_eq_true, Bool.not_eq_true'] at this
    rcases this with h1 | h1
    · have := (hasExt_iff nu.exts d b).mpr hb
      rw [h1] at this; cases this
    · rw [hl] at h1
      simp only [hv, Bool.or_eq_true, Bool.and_eq_true] at h1
      rcases h1 with h2 | ⟨h2, h3⟩
      · exact Or.inl ((hasExt_iff _ _ _).mp h2)
      · exact Or.inr ⟨palNodeB_sound g v h2, (hasExt_iff _ _ _).mp h3⟩

/-- The reciprocal base leads back: `back_link_sides` without the side information in the palindromic case. -/
theorem back_link (g : G D) (hg : SeqInv g) (u v : Nat) (nu nv : Node D) (d s : Dir) (b : Base) (f : Bool)
    (hu : g.nodes[u]? = some nu) (hv : g.nodes[v]? = some nv)
    (hl : findLink g (extend (termKmer g.K nu.seq d) b d) d = some (v, s, f)) :
    (∃ d' f', findLink g (extend (termKmer g.K nv.seq s) (recip (termKmer g.K nu.seq d) d f) s) s = some (u, d', f') ∧
      (d' = d ∨ (g.stranded = false ∧ nu.seq.length = g.K ∧ rc nu.seq = nu.seq))) ∧
    (PalNode g v → ∃ d' f', findLink g (extend (termKmer g.K nv.seq s.flip)
        (Compress.comp (recip (termKmer g.K nu.seq d) d f)) s.flip) s.flip = some (u, d', f')) := by
  obtain ⟨h1, h2⟩ := back_link_sides g hg u v nu nv d s b f hu hv hl
  exact ⟨h1, fun hp => let ⟨d', f', h, _⟩ := h2 hp; ⟨d', f', h⟩⟩

end Graph
