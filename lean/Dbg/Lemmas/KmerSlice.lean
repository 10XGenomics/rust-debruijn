import Dbg.Lemmas.KmerExtend
/-! `set_slice_mut` of the packed k-mer model writes exactly the addressed bases. -/
namespace Kmer
variable {c : Cfg}

/-- the 64-bit `value` moved to the top of the storage word -/
def valueTop (c : Cfg) (value : BitVec 64) : St c :=
  if c.w < 64 then (value >>> (64 - c.w)).setWidth c.w
  else if c.w > 64 then (value.setWidth c.w) <<< (c.w - 64)
  else value.setWidth c.w

theorem valueTop_bits (value : BitVec 64) (j : Nat) (hj : j < c.w) :
    (valueTop c value).getLsbD j = (decide (c.w ≤ j + 64) && value.getLsbD (j + 64 - c.w)) := by
  unfold valueTop
  split
  next h =>
    simp only [BitVec.getLsbD_setWidth, BitVec.getLsbD_ushiftRight, hj, show c.w ≤ j + 64 by omega, decide_true,
      Bool.true_and]
    congr 1; omega
  next h =>
    split
    next h2 =>
      simp only [BitVec.getLsbD_shiftLeft, BitVec.getLsbD_setWidth, hj, decide_true, Bool.true_and]
      by_cases h3 : j < c.w - 64
      · simp [h3, show ¬ c.w ≤ j + 64 by omega]
      · simp [h3, show c.w ≤ j + 64 by omega, show j + 64 - c.w < c.w by omega,
          show j - (c.w - 64) = j + 64 - c.w by omega]
    next h2 =>
      have : c.w = 64 := by omega
      rw [this] at hj
      simp only [BitVec.getLsbD_setWidth, hj, this, Nat.le_add_left, Nat.add_sub_cancel, decide_true, Bool.true_and]

theorem setSliceMut_eq (s : St c) (pos n : Nat) (value : BitVec 64) :
    setSliceMut c s pos n value =
      let mask := topMask c pos ||| bottomMask c (c.K - (pos + n))
      let shift := if c.var then 2 * pos + (c.w - c.K * 2) else 2 * pos
      (s &&& mask) ||| ((valueTop c value >>> shift) &&& ~~~mask) := rfl

section
variable (hc : c.WF) (s : St c) (pos n : Nat) (value : BitVec 64)
include hc

theorem setSliceMut_bits (i : Nat)
    (hn32 : n ≤ 32) (hpn : pos + n ≤ c.K) (hi : i < c.w) :
    (setSliceMut c s pos n value).getLsbD i =
      if 2 * c.K ≤ i + 2 * pos ∨ i < 2 * (c.K - (pos + n)) then s.getLsbD i
      else value.getLsbD (i + 2 * pos + 64 - 2 * c.K) := by
  obtain ⟨slack, hw⟩ := Nat.exists_eq_add_of_le hc.hw
  have hshift : (if c.var = true then 2 * pos + (c.w - c.K * 2) else 2 * pos) = 2 * pos + slack := by
    cases hv : c.var
    · have := hc.hint hv; simp; omega
    · simp; omega
  rw [setSliceMut_eq]
  simp only [BitVec.getLsbD_or, BitVec.getLsbD_and, BitVec.getLsbD_not, BitVec.getLsbD_ushiftRight, hi, decide_true,
    Bool.true_and, hshift, topMask_bits hc pos i (by omega) hi, bottomMask_bits (c.K - (pos + n)) i (by omega) hi,
    ← Bool.decide_or]
  split
  next h => simp [h]
  next h =>
    rw [valueTop_bits value _ (by omega), show 2 * pos + slack + i + 64 - c.w = i + 2 * pos + 64 - 2 * c.K by omega]
    simp [h, show c.w ≤ 2 * pos + slack + i + 64 by omega]

theorem get_setSliceMut (q : Nat)
    (_hn1 : 1 ≤ n) (hn32 : n ≤ 32) (hpn : pos + n ≤ c.K) (hq : q < c.K) :
    get c (setSliceMut c s pos n value) q = if pos ≤ q ∧ q < pos + n then KSpec.runBase value (q - pos) else get c s q := by
  have hq1 := addr_lt hc q hq
  have ha := addr_add q hq
  have bits : ∀ b, b < 2 → (setSliceMut c s pos n value).getLsbD (addr c q + b) =
      if pos ≤ q ∧ q < pos + n then value.getLsbD (62 - 2 * (q - pos) + b) else s.getLsbD (addr c q + b) := by
    intro b hb
    rw [setSliceMut_bits hc s pos n value _ hn32 hpn (by omega)]
    by_cases hin : pos ≤ q ∧ q < pos + n
    · rw [if_neg (by omega), if_pos hin]; congr 1; omega
    · rw [if_pos (by omega), if_neg hin]
  rw [get_bits hc, bits 1 (by decide), show addr c q = addr c q + 0 from rfl, bits 0 (by decide)]
  split
  · exact (lane_toNat value _ (by decide)).symm
  · exact (get_bits hc s q).symm

theorem toSeq_setSliceMut (hn1 : 1 ≤ n) (hn32 : n ≤ 32) (hpn : pos + n ≤ c.K) :
    toSeq c (setSliceMut c s pos n value) = KSpec.setSlice (toSeq c s) pos n value := by
  apply toSeq_eq _ _ (by simp [KSpec.setSlice, toSeq_length])
  intro q hq
  rw [get_setSliceMut hc s pos n value q hn1 hn32 hpn hq]
  simp [KSpec.setSlice, toSeq]

theorem inv_setSliceMut (_hn1 : 1 ≤ n) (hn32 : n ≤ 32) (hpn : pos + n ≤ c.K) (hs : Inv c s) : Inv c (setSliceMut c s pos n value) := by
  apply inv_of_bits
  intro i hi hw
  rw [setSliceMut_bits hc s pos n value i hn32 hpn hw, if_pos (Or.inl (by omega))]
  exact hs i hi

end

end Kmer
