import Dbg.Lemmas.EndPorts
/-! Pruning (`remove_censored_exts`) and good links: the pruned table is closed (every recorded extension leads to a
    present k-mer), and every good link of the unpruned table is a good link of the pruned one. -/
namespace Compress
open Walk (Dir)
open Filter (has ExtSym2 removeCensoredExts extTarget)
variable {D : Type}

theorem nibble_bits : ∀ n : Fin 16, n.val =
    (if nibHas n.val 0 then 1 else 0) + (if nibHas n.val 1 then 2 else 0) + (if nibHas n.val 2 then 4 else 0) +
      (if nibHas n.val 3 then 8 else 0) := by decide

theorem nibble_ext (n m : Fin 16) (h : ∀ b : Base, nibHas n.val b = nibHas m.val b) : n = m := by
  apply Fin.ext
  rw [nibble_bits n, nibble_bits m, h 0, h 1, h 2, h 3]

theorem nibble_comp : ∀ n m : Fin 16, (∀ b : Base, nibHas n.val b = nibHas m.val (comp b)) →
    nibCnt n.val = nibCnt m.val ∧ ∀ c : Base, (nibUniq n.val = some c → nibCnt n.val = 1 → nibUniq m.val = some (comp c)) := by
  decide +kernel

theorem dirBits_ext (e1 e2 : Exts) (h1 : e1.val < 256) (h2 : e2.val < 256) (d : Dir)
    (h : ∀ b, has e1 d b ↔ has e2 d b) : e1.dirBits d = e2.dirBits d := by
  have := nibble_ext ⟨e1.dirBits d, dirBits_lt e1 h1 d⟩ ⟨e2.dirBits d, dirBits_lt e2 h2 d⟩ (fun b => by
    have := h b
    unfold has at this
    cases h3 : nibHas (e1.dirBits d) b <;> cases h4 : nibHas (e2.dirBits d) b <;> simp_all)
  exact congrArg Fin.val this

theorem pruned_closed (st : Bool) (U : Table D) (x : Nat) (e : Entry D) (hx : (removeCensoredExts st U)[x]? = some e)
    (d : Dir) (b : Base) (hb : has e.exts d b) : ∃ y, findId (removeCensoredExts st U) (canonSt st (extend e.key b d)).1 = some y := by
  obtain ⟨e0, _, hk, _, _, hx'⟩ := (Filter.removeCensored_exact st U).2 x e hx
  obtain ⟨_, h2⟩ := (hx' d b).mp hb
  rw [Filter.findId_removeCensored, hk, ← Filter.extTarget_eq]
  exact findId_isSome_of_mem U _ h2

/-- pruning leaves a side with a single extension untouched when that extension leads to a present k-mer -/
theorem prune_keeps_single {U : Table D} {st : Bool} (e e' : Entry D) (h8 : e.exts.val < 256) (h8' : e'.exts.val < 256)
    (hex : ∀ d c, has e'.exts d c ↔ has e.exts d c ∧ extTarget st e.key c d ∈ U.map (·.key))
    (δ : Dir) (c0 : Base) (hcnt : nibCnt (e.exts.dirBits δ) = 1) (h0 : has e.exts δ c0)
    (htgt : extTarget st e.key c0 δ ∈ U.map (·.key)) : e'.exts.dirBits δ = e.exts.dirBits δ := by
  apply dirBits_ext e'.exts e.exts h8' h8 δ
  intro c
  rw [hex δ c]
  refine ⟨fun h => h.1, fun hc => ⟨hc, ?_⟩⟩
  have t := nib_table ⟨e.exts.dirBits δ, dirBits_lt _ h8 δ⟩
  have : c = c0 := by
    have h1 := (t c).1 hcnt hc
    rw [(t c0).1 hcnt h0] at h1
    exact (Option.some.inj h1).symm
  rw [this]; exact htgt

theorem linkOf_prune {U : Table D} {K : Nat} {st : Bool} (join : D → D → Bool) (wf : WF U K st) (hes2 : ExtSym2 U st)
    (x : Nat) (d : Dir) (y : Nat) (d' : Dir) (h : linkOf U st join x d = some (y, d')) :
    linkOf (removeCensoredExts st U) st join x d = some (y, d') := by
  obtain ⟨ex, ey, b, f⟩ := linkOf_inv U st join h
  have hxlt : x < U.length := (List.getElem?_eq_some_iff.mp f.hx).1
  have hylt : y < U.length := (List.getElem?_eq_some_iff.mp f.hy).1
  have hlen : (removeCensoredExts st U).length = U.length := (Filter.removeCensored_exact st U).1
  obtain ⟨ex', hx'⟩ : ∃ e, (removeCensoredExts st U)[x]? = some e := ⟨_, List.getElem?_eq_getElem (by rw [hlen]; exact hxlt)⟩
  obtain ⟨ey', hy'⟩ : ∃ e, (removeCensoredExts st U)[y]? = some e := ⟨_, List.getElem?_eq_getElem (by rw [hlen]; exact hylt)⟩
  obtain ⟨ex0, hx0, hkx, hdx, h8x, hexx⟩ := (Filter.removeCensored_exact st U).2 x ex' hx'
  obtain ⟨ey0, hy0, hky, hdy, h8y, hexy⟩ := (Filter.removeCensored_exact st U).2 y ey' hy'
  rw [f.hx] at hx0; cases hx0
  rw [f.hy] at hy0; cases hy0
  obtain ⟨eyf, hyf, hkeyf⟩ := findId_some f.hfind
  rw [f.hy] at hyf; cases hyf
  have hxne : ex.key ≠ [] := wf.key_ne_nil f.hx
  -- the bits of `x` on side `d` are unchanged: its only extension there leads to `y`, which is present
  have tx := nib_table ⟨ex.exts.dirBits d, dirBits_lt _ (wf.ext8 x ex f.hx) d⟩
  have hasx : has ex.exts d b := (tx b).2.1 f.cntx f.uniq
  have hbx : ex'.exts.dirBits d = ex.exts.dirBits d :=
    prune_keeps_single ex ex' (wf.ext8 x ex f.hx) h8x hexx d b f.cntx hasx (by
      rw [Filter.extTarget_eq, ← hkeyf]; exact List.mem_map_of_mem (List.mem_of_getElem? f.hy))
  -- the bits of `y` on the facing side are unchanged: its only extension there leads back to `x`
  have hasy : has ey.exts (condFlip d.flip (canonSt st (extend ex.key b d)).2) (recip ex.key d (canonSt st (extend ex.key b d)).2) := by
    rcases hes2 x ex d b y ey f.hx hasx f.hfind f.hy with h1 | ⟨hp, _⟩
    · exact h1
    · rw [hkeyf, f.paly] at hp; cases hp
  have hby : ey'.exts.dirBits (condFlip d.flip (canonSt st (extend ex.key b d)).2) =
      ey.exts.dirBits (condFlip d.flip (canonSt st (extend ex.key b d)).2) :=
    prune_keeps_single ey ey' (wf.ext8 y ey f.hy) h8y hexy _ _ f.cnty hasy (by
      rw [Filter.extTarget_eq, hkeyf,
        Filter.canon_back_key (st := st) (x := ex.key) (b := b) (d := d) hxne (fun h => wf.canon h x ex f.hx)]
      exact List.mem_map_of_mem (List.mem_of_getElem? f.hx))
  apply linkOf_intro (removeCensoredExts st U) st join (ex := ex') (ey := ey') (b := b)
  refine ⟨hx', by rw [hbx]; exact f.cntx, by rw [hkx]; exact f.palx, by rw [hbx]; exact f.uniq, ?_, hy', ?_, ?_, ?_, ?_⟩
  · rw [Filter.findId_removeCensored, hkx]; exact f.hfind
  · rw [hkx]; exact f.hd'
  · rw [hkx, hby]; exact f.cnty
  · rw [hdx, hdy]; exact f.hjoin
  · rw [hkx]; exact f.paly

end Compress
