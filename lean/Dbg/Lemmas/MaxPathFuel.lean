import Dbg.Lemmas.GraphProofs
/-! The greedy walk of `max_path` consumes an unused node per step, so the model's fuel (`nodes.length`) is enough: the
    result does not depend on the fuel beyond that. -/
namespace Graph
open Walk (Dir)
variable {D : Type}

theorem full_of_length (n : Nat) (used : List Nat) (hnd : used.Nodup) (hlt : ∀ u ∈ used, u < n) (hlen : n ≤ used.length) :
    ∀ i, i < n → i ∈ used := by
  intro i hi
  by_cases hm : i ∈ used
  · exact hm
  · have hnd' : (i :: used).Nodup := List.nodup_cons.mpr ⟨hm, hnd⟩
    have hsub : (i :: used) ⊆ List.range n := by
      intro x hx
      rcases List.mem_cons.mp hx with rfl | hx'
      · exact List.mem_range.mpr hi
      · exact List.mem_range.mpr (hlt x hx')
    have := List.Nodup.length_le_of_subset hnd' hsub
    rw [List.length_cons, List.length_range] at this
    omega

section
variable (g : G D) (score : D → Int) (solid : D → Bool) (doFlip : Bool)

theorem arm_full (used : List Nat)
    (hall : ∀ i, i < g.nodes.length → i ∈ used) (f : Nat) (cur : Nat × Dir) (path : List (Nat × Dir)) :
    maxPathArm g score solid doFlip f cur used path = (path, used) := by
  cases f with
  | zero => rfl
  | succ k =>
    rw [maxPathArm_succ]
    cases hnx : armNext g score solid cur used with
    | none => rfl
    | some nx =>
      obtain ⟨_, hnot, hlt⟩ := armNext_some g score solid cur used nx hnx
      exact absurd (hall nx.1 hlt) hnot

theorem used_cons (cur : Nat × Dir) (used : List Nat) (nx : Nat × Dir)
    (hnx : armNext g score solid cur used = some nx) (hnd : used.Nodup) (hlt : ∀ u ∈ used, u < g.nodes.length) :
    (nx.1 :: used).Nodup ∧ ∀ u ∈ nx.1 :: used, u < g.nodes.length := by
  obtain ⟨_, hnot, hlt'⟩ := armNext_some g score solid cur used nx hnx
  refine ⟨List.nodup_cons.mpr ⟨hnot, hnd⟩, fun u hu => ?_⟩
  rcases List.mem_cons.mp hu with rfl | h'
  · exact hlt'
  · exact hlt u h'

theorem arm_fuel : ∀ (f1 f2 : Nat) (cur : Nat × Dir)
    (used : List Nat) (path : List (Nat × Dir)), used.Nodup → (∀ u ∈ used, u < g.nodes.length) →
    g.nodes.length ≤ f1 + used.length → g.nodes.length ≤ f2 + used.length →
    maxPathArm g score solid doFlip f1 cur used path = maxPathArm g score solid doFlip f2 cur used path := by
  intro f1
  induction f1 with
  | zero =>
    intro f2 cur used path hnd hlt h1 _
    have hall := full_of_length _ used hnd hlt (by omega)
    rw [arm_full g score solid doFlip used hall, arm_full g score solid doFlip used hall]
  | succ k ih =>
    intro f2 cur used path hnd hlt h1 h2
    cases f2 with
    | zero =>
      have hall := full_of_length _ used hnd hlt (by omega)
      rw [arm_full g score solid doFlip used hall, arm_full g score solid doFlip used hall]
    | succ m =>
      rw [maxPathArm_succ, maxPathArm_succ]
      cases hnx : armNext g score solid cur used with
      | none => rfl
      | some nx =>
        obtain ⟨hnd', hlt'⟩ := used_cons g score solid cur used nx hnx hnd hlt
        exact ih m nx (nx.1 :: used) _ hnd' hlt' (by rw [List.length_cons]; omega) (by rw [List.length_cons]; omega)

theorem arm_used : ∀ (f : Nat) (cur : Nat × Dir)
    (used : List Nat) (path : List (Nat × Dir)), used.Nodup → (∀ u ∈ used, u < g.nodes.length) →
    (maxPathArm g score solid doFlip f cur used path).2.Nodup ∧
      (∀ u ∈ (maxPathArm g score solid doFlip f cur used path).2, u < g.nodes.length) ∧
      used.length ≤ (maxPathArm g score solid doFlip f cur used path).2.length := by
  intro f
  induction f with
  | zero => intro cur used path hnd hlt; exact ⟨hnd, hlt, Nat.le_refl _⟩
  | succ k ih =>
    intro cur used path hnd hlt
    rw [maxPathArm_succ]
    cases hnx : armNext g score solid cur used with
    | none => exact ⟨hnd, hlt, Nat.le_refl _⟩
    | some nx =>
      obtain ⟨hnd', hlt'⟩ := used_cons g score solid cur used nx hnx hnd hlt
      obtain ⟨r1, r2, r3⟩ := ih nx (nx.1 :: used) (if doFlip then (nx.1, nx.2.flip) :: path else path ++ [nx]) hnd' hlt'
      exact ⟨r1, r2, Nat.le_trans (Nat.le_succ _) r3⟩

end

end Graph
