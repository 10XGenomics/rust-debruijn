import Dbg.Model.Slice
/-! View algebra of `DnaStringSlice`, for an arbitrary backing string: every view operation is a re-indexing of `get`. -/
namespace DnaStr.Slice

/-- what `slice` returns: the interval counted from the far end of a reverse-complemented view -/
theorem slice_eq_some (s s' : Slice) (a b : Nat) (h : s.slice a b = some s') :
    (a ≤ b ∧ b ≤ s.length) ∧ s' = ⟨if s.isRc then s.start + s.length - b else s.start + a, b - a, s.isRc⟩ := by
  unfold slice at h
  split at h
  · rename_i hr
    refine ⟨⟨hr.2.2, hr.2.1⟩, ?_⟩
    cases hrc : s.isRc <;> rw [hrc] at h <;> exact (Option.some.inj h).symm
  · cases h

theorem get_slice (d : T) (s s' : Slice) (a b i : Nat) (h : s.slice a b = some s') (hi : i < b - a) :
    get d s' i = get d s (a + i) := by
  obtain ⟨⟨hab, hb⟩, rfl⟩ := slice_eq_some s s' a b h
  unfold get
  cases hrc : s.isRc
  · show DnaStr.get d (i + (s.start + a)) = DnaStr.get d (a + i + s.start)
    rw [Nat.add_comm s.start a, ← Nat.add_assoc, Nat.add_comm i a]
  · simp only [Bool.not_true, Bool.false_eq_true, if_false, if_true]
    rw [if_neg (by omega), if_neg (by omega)]
    congr 2; omega

theorem slice_length (s s' : Slice) (a b : Nat) (h : s.slice a b = some s') : s'.length = b - a ∧ s'.isRc = s.isRc := by
  obtain ⟨_, rfl⟩ := slice_eq_some s s' a b h
  exact ⟨rfl, rfl⟩

theorem slice_isSome (s : Slice) (a b : Nat) : (s.slice a b).isSome ↔ (a ≤ b ∧ b ≤ s.length) := by
  unfold slice
  by_cases h : a ≤ s.length ∧ b ≤ s.length ∧ a ≤ b
  · simp only [h, and_self, if_true]
    by_cases hrc : s.isRc = true <;> simp [hrc] <;> omega
  · simp only [h, if_false]; simp; omega

theorem get_rc_fwd (d : T) (s : Slice) (i : Nat) (hf : s.isRc = false) (hi : i < s.length) :
    get d s.rc i = (get d s (s.length - 1 - i)).map complement := by
  simp only [get, rc, hf, Bool.not_false, Bool.not_true, Bool.false_eq_true, if_false, if_true]
  have : ¬ (s.start + s.length < 1 + i) := by omega
  simp only [this, if_false]
  congr 2; omega

theorem rc_rc (s : Slice) : s.rc.rc = s := by cases s; simp [rc]

theorem rc_fields (s : Slice) : s.rc.start = s.start ∧ s.rc.length = s.length ∧ s.rc.isRc = !s.isRc := by simp [rc]

theorem complement_spec : ∀ b : Fin 4, complement b.val = 3 - b.val ∧ complement (complement b.val) = b.val := by decide

theorem sliceOf_spec (d : T) (a b : Nat) (s : Slice) (h : sliceOf d a b = some s) (i : Nat) :
    s.length = b - a ∧ s.isRc = false ∧ get d s i = DnaStr.get d (i + a) := by
  unfold sliceOf at h
  split at h
  · simp only [Option.some.injEq] at h; subst h; simp [get]
  · exact absurd h (by simp)

theorem prefix_spec (d : T) (k : Nat) (s : Slice) (h : prefix_ d k = some s) (i : Nat) :
    s.length = k ∧ s.isRc = false ∧ get d s i = DnaStr.get d i := by
  unfold prefix_ at h
  split at h
  · simp only [Option.some.injEq] at h; subst h; simp [get]
  · exact absurd h (by simp)

theorem suffix_spec (d : T) (k : Nat) (s : Slice) (h : suffix_ d k = some s) (i : Nat) :
    s.length = k ∧ s.isRc = false ∧ get d s i = DnaStr.get d (i + (d.len - k)) := by
  unfold suffix_ at h
  split at h
  · simp only [Option.some.injEq] at h; subst h; simp [get]
  · exact absurd h (by simp)

/-- `Debug` as repaired (D2) renders through `get`, like `Display`, below the summary threshold -/
theorem debug_eq_display (d : T) (s : Slice) (h : s.length < 256) : debug d s = display d s := by
  unfold debug display
  have : s.length < Gen.sliceDebugLimit := h
  simp [this]

end DnaStr.Slice
