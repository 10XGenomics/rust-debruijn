import Dbg.Model.Compress
import Dbg.Lemmas.WalkProofs
/-! The code-shaped walk `walkC` (availability tested inside `try_extend_kmer`, a panic branch, an extension set
    returned at the end) against the abstract walk over `linkOf T`. -/
namespace Compress
open Walk (Dir rm)

variable {D : Type} (T : Table D) (st : Bool) (join : D → D → Bool)

def Static.exts : Static → Exts
  | .blocked e => e
  | .absent e => e
  | .cand _ _ _ _ e => e

theorem staticStep_exts {x : Nat} {ex : Entry D} (hx : T[x]? = some ex) (d : Dir) :
    (staticStep T st join x d).exts = ex.exts.singleDir d := by
  unfold staticStep
  rw [hx]
  dsimp only
  repeat' split
  all_goals rfl

theorem tryExtend_eq (hnp : NoPanic T st join) (avail : List Nat) (x : Nat) (d : Dir) :
    tryExtend T st join avail x d =
      match linkOf T st join x d with
      | some (y, d') => if y ∈ avail then .unique y d' else .terminal (staticStep T st join x d).exts
      | none => .terminal (staticStep T st join x d).exts := by
  unfold tryExtend linkOf
  cases hs : staticStep T st join x d with
  | blocked e => rfl
  | absent e => rfl
  | cand y d' ok panic e =>
    cases panic with
    | true => exact absurd hs (hnp x d y d' ok e)
    | false => cases ok <;> by_cases hy : y ∈ avail <;> simp [hy, Static.exts]

theorem walkC_unique {avail : List Nat} {x y : Nat} {d d' : Dir} (h : tryExtend T st join avail x d = .unique y d')
    (hy : y ∈ avail) :
    walkC T st join avail x d = (walkC T st join (rm avail y) y d').map fun r => ((y, d') :: r.1, r.2) := by
  rw [walkC]
  split
  · rename_i y1 d1 heq
    rw [h] at heq
    cases heq
    rw [dif_pos hy]
    cases walkC T st join (rm avail y) y d' <;> rfl
  · rename_i heq; rw [h] at heq; cases heq
  · rename_i heq; rw [h] at heq; cases heq

theorem walkC_terminal {avail : List Nat} {x : Nat} {d : Dir} {e : Exts} (h : tryExtend T st join avail x d = .terminal e) :
    walkC T st join avail x d = some ([], e, avail) := by
  rw [walkC]
  split
  · rename_i heq; rw [h] at heq; cases heq
  · rename_i heq; rw [h] at heq; cases heq; rfl
  · rename_i heq; rw [h] at heq; cases heq

def lastPort (p : List (Nat × Dir)) (x : Nat) (d : Dir) : Nat × Dir := p.getLast?.getD (x, d)

theorem lastPort_cons (q : Nat × Dir) (p : List (Nat × Dir)) (x : Nat) (d : Dir) : lastPort (q :: p) x d = lastPort p q.1 q.2 := by
  unfold lastPort
  cases p with
  | nil => rfl
  | cons a t => rw [List.getLast?_cons_cons]; simp [List.getLast?_cons]

theorem getLast?_cons_map_lastPort {β : Type} (f : Nat × Dir → β) (p : List (Nat × Dir)) (x : Nat) (d : Dir) :
    (f (x, d) :: p.map f).getLast? = some (f (lastPort p x d)) := by
  rw [List.getLast?_cons, List.getLast?_map, lastPort]
  cases p.getLast? <;> rfl

/-- Under `NoPanic`, the concrete walk is the abstract walk over `linkOf T`, and the extension set it returns is the
    one of the static step at the port where it stopped. -/
theorem walkC_eq (hnp : NoPanic T st join) (avail : List Nat) (x : Nat) (d : Dir) :
    walkC T st join avail x d = some ((Walk.walk (linkOf T st join) avail x d).1,
      (staticStep T st join (lastPort (Walk.walk (linkOf T st join) avail x d).1 x d).1
        (lastPort (Walk.walk (linkOf T st join) avail x d).1 x d).2).exts,
      (Walk.walk (linkOf T st join) avail x d).2) := by
  fun_induction Walk.walk (linkOf T st join) avail x d with
  | case1 avail x d y d' hl hy r ih =>
    have ht : tryExtend T st join avail x d = .unique y d' := by rw [tryExtend_eq T st join hnp, hl]; simp [hy]
    rw [walkC_unique T st join ht hy, ih, lastPort_cons]
    rfl
  | case2 avail x d y d' hl hy =>
    have ht := tryExtend_eq T st join hnp avail x d
    rw [hl] at ht
    simp only [hy, if_false] at ht
    exact walkC_terminal T st join ht
  | case3 avail x d hl =>
    have ht := tryExtend_eq T st join hnp avail x d
    rw [hl] at ht
    exact walkC_terminal T st join ht

theorem walkC_refines (hnp : NoPanic T st join) (avail : List Nat) (x : Nat) (d : Dir) :
    ∃ e, walkC T st join avail x d =
      some ((Walk.walk (linkOf T st join) avail x d).1, e, (Walk.walk (linkOf T st join) avail x d).2) :=
  ⟨_, walkC_eq T st join hnp avail x d⟩

end Compress
