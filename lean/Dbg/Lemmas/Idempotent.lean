import Dbg.Lemmas.ShardFinal
/-! Re-compressing a re-compressed graph changes nothing but node order and orientation. -/
namespace Compress
open Walk (Dir Conn Rel rm)
open Filter (has ExtSym2 removeCensoredExts)
open Graph (G termKmer orientedKmers fixExts)
open CompressGraph (glinkV RInv buildNode ids compressLoop compressGraph)
variable {D : Type}

theorem prune_closed_content {T : Table D} {K : Nat} {st : Bool} (wf : WF T K st) (hcl : Closed T st) :
    ContentLe (removeCensoredExts st T) T ∧ ContentLe T (removeCensoredExts st T) := by
  have key : ∀ (i : Nat) (e1 e0 : Entry D), (removeCensoredExts st T)[i]? = some e1 → T[i]? = some e0 →
      e1.key = e0.key ∧ e1.data = e0.data ∧ ∀ d, e1.exts.dirBits d = e0.exts.dirBits d := by
    intro i e1 e0 h1 h0
    obtain ⟨e0', h0', hk, hd, h8, hx⟩ := (Filter.removeCensored_exact st T).2 i e1 h1
    have e : e0' = e0 := by rw [h0] at h0'; exact (Option.some.inj h0').symm
    subst e
    refine ⟨hk, hd, fun d => dirBits_ext e1.exts e0'.exts h8 (wf.ext8 i e0' h0) d (fun c => ?_)⟩
    rw [hx d c]
    constructor
    · exact fun h => h.1
    · intro hc
      refine ⟨hc, ?_⟩
      obtain ⟨y, hy⟩ := hcl i e0' d c h0 hc
      rw [Filter.extTarget_eq]
      exact mem_keys_of_findId hy
  have hlen := (Filter.removeCensored_exact st T).1
  constructor
  · intro e1 h1
    obtain ⟨i, hi⟩ := List.mem_iff_getElem?.mp h1
    have hlt : i < T.length := by rw [← hlen]; exact (List.getElem?_eq_some_iff.mp hi).1
    obtain ⟨a, b, c⟩ := key i e1 T[i] hi (List.getElem?_eq_getElem hlt)
    exact ⟨T[i], List.getElem_mem hlt, a, b, c⟩
  · intro e0 h0
    obtain ⟨i, hi⟩ := List.mem_iff_getElem?.mp h0
    have hlt : i < (removeCensoredExts st T).length := by rw [hlen]; exact (List.getElem?_eq_some_iff.mp hi).1
    obtain ⟨a, b, c⟩ := key i _ e0 (List.getElem?_eq_getElem hlt) hi
    exact ⟨_, List.getElem_mem hlt, a.symm, b.symm, fun d => (c d).symm⟩

/-- pruning a closed table does not change which keys are connected -/
theorem kconn_prune_closed {T : Table D} {K : Nat} {st : Bool} (wf : WF T K st) (hcl : Closed T st) (join : D → D → Bool)
    (k1 k2 : Seq) : KConn (removeCensoredExts st T) st join k1 k2 ↔ KConn T st join k1 k2 :=
  have ⟨c, c'⟩ := prune_closed_content wf hcl
  ⟨kconn_content join wf c k1 k2, kconn_content join (Filter.wf_removeCensored st T K wf) c' k1 k2⟩

/-- **idempotence of re-compression.**  Re-compress a ported graph (constantly-true join, no censoring), then
    re-compress the result: both calls return, every path of the second call consists of exactly one node of the first
    result, the node counts are equal, and the partitions of the k-mers into nodes are the same. -/
theorem pgraph_recompress_idem {U : Table D} {K : Nat} {st : Bool} {join0 : D → D → Bool} {nodes : List (Node D)}
    {port : Nat → Dir → Nat × Dir} {members : Nat → List Nat} {lk : Walk.Link}
    (pg : PGraph U K st join0 nodes port members lk) (wf : WF U K st) (hes2 : ExtSym2 U st) (reduce : D → D → D) :
    ∃ g' paths g'' paths'', compressGraph st (⟨K, nodes, st⟩ : G D) (fun _ _ => true) reduce [] = some (g', paths) ∧
      compressGraph st g' (fun _ _ => true) reduce [] = some (g'', paths'') ∧
      (∀ p ∈ paths'', ∃ X, ids p = [X]) ∧ g''.nodes.length = g'.nodes.length ∧ SameParts K st g''.nodes g'.nodes := by
  obtain ⟨g'0, paths0, port', mem', hcg, hK', hst', pg3, _, _, hsame1⟩ := recompress_ported pg wf hes2 reduce
  have wf1 := Filter.wf_removeCensored st U K wf
  have hes1 := Filter.extSym2_removeCensored st U K wf hes2
  have wf2 := Filter.wf_removeCensored st _ K wf1
  have hes2' := Filter.extSym2_removeCensored st _ K wf1 hes1
  -- a pruned table is closed, so the good-link relations of the first and the second round coincide
  have hE : ∀ k1 k2, KConn (removeCensoredExts st (removeCensoredExts st (removeCensoredExts st U))) st (fun _ _ => true) k1 k2 ↔
      KConn (removeCensoredExts st U) st (fun _ _ => true) k1 k2 := fun k1 k2 =>
    (kconn_prune_closed wf2 (closed_pruned st _) _ k1 k2).trans (kconn_prune_closed wf1 (closed_pruned st U) _ k1 k2)
  have heta := graph_eta g'0 K st hK' hst'
  obtain ⟨g'', paths'', port'', mem'', hcg2, _, _, pg5, hlenP2, hmem5, hsame2⟩ := recompress_ported pg3 wf2 hes2' reduce
  rw [← heta] at hcg2
  obtain ⟨_, _, hcovP2, hrangeP2, hndP2⟩ := CompressGraph.C09_kmers_cover st g'0 (by rw [hK']; exact wf.kpos)
    (by intro i n hi; rw [hK']; exact pg3.len i n hi) _ reduce [] g'' paths'' hcg2
  have hcov2 : ∀ X, X < g'0.nodes.length → ∃ p ∈ paths'', X ∈ ids p := fun X hX => hcovP2 X hX (by simp)
  have hrange2 : ∀ p ∈ paths'', ∀ i ∈ ids p, i < g'0.nodes.length := fun p hp i hi => (hrangeP2 p hp i hi).2
  -- two nodes of the first result on one second-level path are connected, hence the same node
  have hsame : ∀ p ∈ paths'', ∀ X ∈ ids p, ∀ Y ∈ ids p, X = Y := by
    intro p hp X hXm Y hYm
    obtain ⟨k, hk, rfl⟩ := List.getElem_of_mem hp
    have hX := hrange2 _ hp X hXm
    have hY := hrange2 _ hp Y hYm
    have hin : ∀ Z, Z ∈ ids paths''[k] → (port' Z .L).1 ∈ mem'' k := by
      intro Z hZ
      obtain ⟨q, hq, rfl⟩ := List.mem_map.mp hZ
      rw [hmem5 k _ (List.getElem?_eq_getElem hk)]
      exact (mem_memOf mem' _ _).mpr ⟨q, hq, pg3.portMem q.1 .L (hrange2 _ hp q.1 hZ)⟩
    have hk' : k < g''.nodes.length := hlenP2 ▸ hk
    have hc := (hsame2 k k hk' hk' _ (hin X hXm) _ (hin Y hYm)).mp rfl
    rw [keyOf_pruned, keyOf_pruned, keyOf_pruned, keyOf_pruned] at hc
    exact (hsame1 X Y hX hY _ (pg3.portMem X .L hX) _ (pg3.portMem Y .L hY)).mpr ((hE _ _).mp hc)
  have hsingle : ∀ p ∈ paths'', ∃ X, ids p = [X] := by
    intro p hp
    have hnd : (ids p).Nodup := by
      rw [← List.flatMap_def] at hndP2
      exact (nodup_flatMap_index paths'' ids hndP2).1 p hp
    cases hids : ids p with
    | nil =>
      -- an empty path would leave its new node without positions
      exfalso
      obtain ⟨k, hk, rfl⟩ := List.getElem_of_mem hp
      have := pg5.portMem k .L (hlenP2 ▸ hk)
      rw [hmem5 k _ (List.getElem?_eq_getElem hk), List.map_eq_nil_iff.mp hids] at this
      cases this
    | cons X t =>
      cases t with
      | nil => exact ⟨X, rfl⟩
      | cons Y t' =>
        exfalso
        have := hsame p hp X (by rw [hids]; simp) Y (by rw [hids]; simp)
        rw [hids, this] at hnd
        simp at hnd
  refine ⟨g'0, paths0, g'', paths'', hcg, hcg2, hsingle, ?_, ?_⟩
  · -- the singletons enumerate the nodes of the first result exactly once
    have hflat : (paths''.map ids).flatten.length = paths''.length := by
      rw [List.length_flatten, List.map_map]
      have : (List.map (List.length ∘ ids) paths'') = paths''.map (fun _ => 1) := by
        apply List.map_congr_left
        intro p hp
        obtain ⟨X, hX⟩ := hsingle p hp
        simp only [Function.comp, hX, List.length_singleton]
      rw [this, List.map_const', List.sum_replicate_nat, Nat.mul_one]
    have hperm : (paths''.map ids).flatten.Perm (List.range g'0.nodes.length) := by
      apply (List.perm_ext_iff_of_nodup hndP2 List.nodup_range).mpr
      intro X
      rw [List.mem_range, List.mem_flatten]
      constructor
      · rintro ⟨N, hN, hXN⟩
        obtain ⟨p, hp, rfl⟩ := List.mem_map.mp hN
        exact hrange2 p hp X hXN
      · intro hX
        obtain ⟨p, hp, hXp⟩ := hcov2 X hX
        exact ⟨ids p, List.mem_map_of_mem hp, hXp⟩
    have := hperm.length_eq
    rw [hflat, List.length_range] at this
    rw [hlenP2, this]
  · -- both graphs' nodes are the classes of one relation on the same keys
    exact sameParts_of_classes
      (classes_transfer (recompress_classes wf2 pg5 hsame2) hE (fun k => by rw [keys_pruned, keys_pruned]))
      (recompress_classes wf pg3 hsame1)

end Compress

namespace Compress
open Walk (Dir Conn Rel rm)
open Filter (has ExtSym2 removeCensoredExts)
open Graph (G termKmer orientedKmers fixExts GInv)
open CompressGraph (compressGraph)
variable {D : Type}

theorem sharded_result_ginv {R : Table D} {K : Nat} {st : Bool} (wfR : WF R K st) (hesR : ExtSym2 R st)
    (Ts : List (Table D)) (sw : Sandwich st Ts.flatten R) (reduce : D → D → D)
    (join0 : D → D → Bool) (hj0 : ∀ a b, join0 a b = join0 b a) :
    ∃ outs g' paths, AllBuilt st join0 reduce Ts outs ∧
      compressGraph st (⟨K, (outs.map fun o => o.map (·.1)).flatten, st⟩ : G D) (fun _ _ => true) reduce [] = some (g', paths) ∧
      GInv g' ∧ CompressGraph.PalEnd g' := by
  obtain ⟨wfU, hesU, outs, port, mem, lk, hb, pg⟩ := sharded_combined wfR hesR Ts sw reduce join0 hj0
  obtain ⟨g', paths, port', mem', hcg, hK, hst, pg3, _, _⟩ := pgraph_compressGraph pg wfU hesU reduce
  have wf1 := Filter.wf_removeCensored st _ K wfU
  have hes1 := Filter.extSym2_removeCensored st _ K wfU hesU
  have wf2 := Filter.wf_removeCensored st _ K wf1
  have hes2' := Filter.extSym2_removeCensored st _ K wf1 hes1
  have heta := graph_eta g' K st hK hst
  refine ⟨outs, g', paths, hb, hcg, ?_, ?_⟩
  · rw [heta]; exact pg3.ginv wf2 hes2'
  · intro i n s hstf hi hrc
    rw [hK] at hrc ⊢
    exact pg3.palEnd i n s (by rw [← hst]; exact hstf) hi hrc

theorem allBuilt_unique {st : Bool} (join : D → D → Bool) (reduce : D → D → D) :
    ∀ (Ts : List (Table D)) (o1 o2 : List (List (Node D × List Nat))), AllBuilt st join reduce Ts o1 → AllBuilt st join reduce Ts o2 → o1 = o2 := by
  intro Ts
  induction Ts with
  | nil =>
    intro o1 o2 h1 h2
    cases o1 with
    | nil => cases o2 with
      | nil => rfl
      | cons _ _ => exact absurd h2 (by simp [AllBuilt])
    | cons _ _ => exact absurd h1 (by simp [AllBuilt])
  | cons T Ts ih =>
    intro o1 o2 h1 h2
    cases o1 with
    | nil => exact absurd h1 (by simp [AllBuilt])
    | cons a as =>
      cases o2 with
      | nil => exact absurd h2 (by simp [AllBuilt])
      | cons b bs =>
        obtain ⟨ha, has⟩ : compressKmersC T st join reduce = some a ∧ AllBuilt st join reduce Ts as := h1
        obtain ⟨hb, hbs⟩ : compressKmersC T st join reduce = some b ∧ AllBuilt st join reduce Ts bs := h2
        rw [ha] at hb
        rw [Option.some.inj hb, ih as bs has hbs]

end Compress
