import Dbg.Lemmas.KeyConn
/-! A table whose extension sets lie between the pruned and the full sets of a reference table (what the sharded
    pipeline produces: extensions towards other shards are kept unconditionally) is well-formed and reciprocal, and after
    pruning has the content of the pruned reference table. -/
namespace Compress
open Walk (Dir)
open Filter (has ExtSym2 removeCensoredExts extTarget)
variable {D : Type}

structure Sandwich (st : Bool) (U R : Table D) : Prop where
  keys : (U.map (·.key)).Perm (R.map (·.key))
  ent : ∀ eu ∈ U, ∃ er ∈ R, eu.key = er.key ∧ eu.data = er.data ∧ eu.exts.val < 256 ∧
    (∀ d c, has eu.exts d c → has er.exts d c) ∧
    (∀ d c, has er.exts d c → extTarget st er.key c d ∈ R.map (·.key) → has eu.exts d c)

theorem entry_of_key {R : Table D} {K : Nat} {st : Bool} (wf : WF R K st) (e1 e2 : Entry D) (h1 : e1 ∈ R) (h2 : e2 ∈ R)
    (hk : e1.key = e2.key) : e1 = e2 := by
  obtain ⟨i, hi⟩ := List.mem_iff_getElem?.mp h1
  obtain ⟨j, hj⟩ := List.mem_iff_getElem?.mp h2
  have := wf.distinct i j e1 e2 hi hj hk
  subst this
  rw [hi] at hj; exact Option.some.inj hj

theorem sandwich_wf {U R : Table D} {K : Nat} {st : Bool} (wf : WF R K st) (sw : Sandwich st U R) : WF U K st := by
  have hndU : (U.map (·.key)).Nodup := sw.keys.nodup_iff.mpr wf.keys_nodup
  -- every other field is read off the entry of `R` with the same key
  have href : ∀ (x : Nat) (e : Entry D), U[x]? = some e → ∃ (i : Nat) (er : Entry D), R[i]? = some er ∧ e.key = er.key ∧ e.exts.val < 256 := by
    intro x e h
    obtain ⟨er, hr, hk, _, h8, _⟩ := sw.ent e (List.mem_of_getElem? h)
    obtain ⟨i, hi⟩ := List.mem_iff_getElem?.mp hr
    exact ⟨i, er, hi, hk, h8⟩
  refine ⟨wf.kpos, ?_, ?_, ?_, ?_⟩
  · intro x e h
    obtain ⟨i, er, hi, hk, _⟩ := href x e h
    rw [hk]; exact wf.len i er hi
  · intro x y ex ey hx hy hk
    apply (List.getElem?_inj (by simpa using (List.getElem?_eq_some_iff.mp hx).1) hndU).mp
    rw [List.getElem?_map, List.getElem?_map, hx, hy, Option.map_some, Option.map_some, hk]
  · intro hst x e h
    obtain ⟨i, er, hi, hk, _⟩ := href x e h
    rw [hk]; exact wf.canon hst i er hi
  · intro x e h
    obtain ⟨_, _, _, _, h8⟩ := href x e h
    exact h8

theorem findId_of_mem {T : Table D} {K : Nat} {st : Bool} (wf : WF T K st) (e : Entry D) (h : e ∈ T) :
    ∃ y, findId T e.key = some y ∧ T[y]? = some e := by
  obtain ⟨i, hi⟩ := List.mem_iff_getElem?.mp h
  exact ⟨i, findId_self wf hi, hi⟩

/-- at a k-mer equal to its reverse complement, a flank leads to the same canonical neighbour whichever side records it -/
theorem canon_extend_pal (x : Seq) (hp : rc x = x) (b : Base) (d : Dir) :
    (canonSt false (extend x (comp b) d.flip)).1 = (canonSt false (extend x b d)).1 := by
  have h := Filter.extend_comp_flip x b d
  rw [hp] at h
  rw [h]
  simp only [canonSt, Bool.false_eq_true, if_false]
  exact Filter.minRcFlip_rc_key _

theorem sandwich_extSym2 {U R : Table D} {K : Nat} {st : Bool} (wf : WF R K st) (hes2 : ExtSym2 R st) (sw : Sandwich st U R) :
    ExtSym2 U st := by
  intro x ex d b y ey hx hb hy hy'
  obtain ⟨er, hrm, hkx, _, _, hup, _⟩ := sw.ent ex (List.mem_of_getElem? hx)
  obtain ⟨ery, hrym, hky, _, _, _, hlow⟩ := sw.ent ey (List.mem_of_getElem? hy')
  obtain ⟨xr, _, hxr⟩ := findId_of_mem wf er hrm
  obtain ⟨yr, hfy, hyr⟩ := findId_of_mem wf ery hrym
  obtain ⟨ey0, hy0, hkey0⟩ := findId_some hy
  rw [hy'] at hy0; cases hy0
  have hxne : er.key ≠ [] := by
    intro e
    have hK := wf.kpos
    rw [← wf.len xr er hxr, e] at hK
    exact absurd hK (by decide)
  rw [hkx] at hkey0 ⊢
  have hfind : findId R (canonSt st (extend er.key b d)).1 = some yr := by rw [← hkey0, hky]; exact hfy
  have hback := Filter.canon_back_key (st := st) (x := er.key) (b := b) (d := d) hxne (fun h => wf.canon h xr er hxr)
  have hmemx : er.key ∈ R.map (·.key) := List.mem_map_of_mem hrm
  rcases hes2 xr er d b yr ery hxr (hup d b hb) hfind hyr with h | ⟨hp, h⟩
  · left
    apply hlow _ _ h
    rw [Filter.extTarget_eq, ← hky, hkey0, hback]; exact hmemx
  · right
    refine ⟨by rw [hky]; exact hp, ?_⟩
    apply hlow _ _ h
    -- the palindrome's other-strand extension leads to the same canonical k-mer
    have hst : st = false := by
      cases st
      · rfl
      · cases hp
    subst hst
    have hrc : rc ery.key = ery.key := by
      have : isPalindrome ery.key = true := hp
      unfold isPalindrome at this
      simp only [Bool.and_eq_true, beq_iff_eq] at this
      exact this.2.symm
    rw [Filter.extTarget_eq, canon_extend_pal _ hrc, ← hky, hkey0, hback]; exact hmemx

theorem mem_pruned (st : Bool) (T : Table D) (e0 : Entry D) (h : e0 ∈ T) :
    ∃ e1 ∈ removeCensoredExts st T, e1.key = e0.key ∧ e1.data = e0.data ∧ e1.exts.val < 256 ∧
      ∀ d b, has e1.exts d b ↔ has e0.exts d b ∧ extTarget st e0.key b d ∈ T.map (·.key) := by
  obtain ⟨i, hi⟩ := List.mem_iff_getElem?.mp h
  have hlt : i < (removeCensoredExts st T).length := by
    rw [(Filter.removeCensored_exact st T).1]; exact (List.getElem?_eq_some_iff.mp hi).1
  obtain ⟨e, he, r⟩ := (Filter.removeCensored_exact st T).2 i _ (List.getElem?_eq_getElem hlt)
  rw [hi] at he; cases he
  exact ⟨_, List.getElem_mem hlt, r⟩

theorem sandwich_pruned {U R : Table D} {K : Nat} {st : Bool} (wf : WF R K st) (sw : Sandwich st U R) :
    ContentLe (removeCensoredExts st U) (removeCensoredExts st R) ∧ ContentLe (removeCensoredExts st R) (removeCensoredExts st U) := by
  have hkeys : ∀ k, k ∈ U.map (·.key) ↔ k ∈ R.map (·.key) := fun k => sw.keys.mem_iff
  -- an entry `eu` of `U` and the entry `er` of `R` it is sandwiched by are pruned to the same extension bits:
  -- a target in the table survives in both, and `eu` has no target that `er` lacks
  have main : ∀ (eu er eu' er' : Entry D), eu.key = er.key →
      (∀ d c, has eu.exts d c → has er.exts d c) →
      (∀ d c, has er.exts d c → extTarget st er.key c d ∈ R.map (·.key) → has eu.exts d c) →
      eu'.exts.val < 256 → (∀ d c, has eu'.exts d c ↔ has eu.exts d c ∧ extTarget st eu.key c d ∈ U.map (·.key)) →
      er'.exts.val < 256 → (∀ d c, has er'.exts d c ↔ has er.exts d c ∧ extTarget st er.key c d ∈ R.map (·.key)) →
      ∀ d, eu'.exts.dirBits d = er'.exts.dirBits d := by
    intro eu er eu' er' hk hup hlow h8u hxu h8r hxr d
    apply dirBits_ext eu'.exts er'.exts h8u h8r d
    intro c
    rw [hxu d c, hxr d c, hk, hkeys]
    exact ⟨fun ⟨a, b⟩ => ⟨hup d c a, b⟩, fun ⟨a, b⟩ => ⟨hlow d c a b, b⟩⟩
  constructor
  · intro eu' hu'
    obtain ⟨eu, hu, hku, hdu, h8u, hxu⟩ := Filter.pruned_of_mem st U eu' hu'
    obtain ⟨er, hr, hk, hd, _, hup, hlow⟩ := sw.ent eu hu
    obtain ⟨er', hr', hkr, hdr, h8r, hxr⟩ := mem_pruned st R er hr
    exact ⟨er', hr', by rw [hku, hk, hkr], by rw [hdu, hd, hdr], main eu er eu' er' hk hup hlow h8u hxu h8r hxr⟩
  · intro er' hr'
    obtain ⟨er, hr, hkr, hdr, h8r, hxr⟩ := Filter.pruned_of_mem st R er' hr'
    obtain ⟨eu, hu, hke⟩ := List.mem_map.mp ((hkeys _).mpr (List.mem_map_of_mem hr))
    obtain ⟨er2, hr2, hk, hd, _, hup, hlow⟩ := sw.ent eu hu
    have : er2 = er := entry_of_key wf er2 er hr2 hr (by rw [← hk, hke])
    subst this
    obtain ⟨eu', hu', hku, hdu, h8u, hxu⟩ := mem_pruned st U eu hu
    exact ⟨eu', hu', by rw [hkr, ← hk, hku], by rw [hdr, ← hd, hdu],
      fun d => (main eu er2 eu' er' hk hup hlow h8u hxu h8r hxr d).symm⟩

end Compress
