import Dbg.Spec.C10
/-! Bit-level facts about the packed k-mer model, generic in the storage width and K.

    A base is a two-bit lane; every operation is described first by the bits of its result (`…_bits`), and
    `get_congr` / `get_eq_of_bits` turn that into the base read at a position, `toSeq_eq` into the string. -/

namespace Mask

theorem lowMask_getLsbD (w n i : Nat) (hn : n ≤ w) :
    ((1#w <<< n) - 1#w).getLsbD i = (decide (i < n) && decide (i < w)) := by
  by_cases hw : w = 0
  · subst hw; simp
  by_cases hnw : n = w
  · subst hnw
    have : (1#n <<< n) = 0#n := by
      apply BitVec.eq_of_getLsbD_eq; intro j hj; simp
    rw [this]
    have : (0#n - 1#n) = BitVec.allOnes n := by
      rw [BitVec.zero_sub]; exact BitVec.neg_one_eq_allOnes
    rw [this]; simp
  · have hlt : n < w := by omega
    have h2 : 2 ^ n < 2 ^ w := Nat.pow_lt_pow_right (by decide) hlt
    have h1 : (1 : Nat) < 2 ^ w := Nat.one_lt_two_pow hw
    have htn : ((1#w <<< n) - 1#w).toNat = 2 ^ n - 1 := by
      rw [BitVec.toNat_sub, BitVec.toNat_shiftLeft, BitVec.toNat_ofNat, Nat.mod_eq_of_lt h1,
        Nat.shiftLeft_eq, Nat.one_mul, Nat.mod_eq_of_lt h2]
      have hp : 0 < 2 ^ n := Nat.two_pow_pos n
      have : 2 ^ w - 1 + 2 ^ n = 2 ^ w + (2 ^ n - 1) := by omega
      rw [this, Nat.add_mod_left, Nat.mod_eq_of_lt (by omega)]
    rw [BitVec.getLsbD, htn, Nat.testBit_two_pow_sub_one]
    by_cases hi : i < n
    · simp [hi]; omega
    · simp [hi]

end Mask

namespace Kmer

theorem mod4_testBit (x : Nat) : x % 4 = 2 * (x.testBit 1).toNat + (x.testBit 0).toNat := by
  rw [Nat.toNat_testBit, Nat.toNat_testBit, Nat.pow_zero, Nat.div_one, Nat.pow_one, Nat.mod_pow_succ (b := 2) (k := 1),
    Nat.pow_one, Nat.add_comm]

theorem toNat_of_testBits (v : Nat) (hv : v < 4) : 2 * (v.testBit 1).toNat + (v.testBit 0).toNat = v := by
  rw [← mod4_testBit, Nat.mod_eq_of_lt hv]

theorem testBit_lt4 (v j : Nat) (hv : v < 4) (hj : 2 ≤ j) : v.testBit j = false :=
  Nat.testBit_lt_two_pow (Nat.lt_of_lt_of_le hv (Nat.pow_le_pow_right (n := 2) (by decide) hj))

theorem lane_toNat {w : Nat} (x : BitVec w) (a : Nat) (hw : 2 ≤ w) :
    ((x >>> a) &&& 3#w).toNat = 2 * (x.getLsbD (a + 1)).toNat + (x.getLsbD a).toNat := by
  have h3 : 3 % 2 ^ w = 3 :=
    Nat.mod_eq_of_lt (Nat.lt_of_lt_of_le (by decide) (Nat.pow_le_pow_right (n := 2) (by decide) hw))
  rw [BitVec.toNat_and, BitVec.toNat_ofNat, h3, Nat.and_two_pow_sub_one_eq_mod _ 2, mod4_testBit, BitVec.testBit_toNat,
    BitVec.testBit_toNat, BitVec.getLsbD_ushiftRight, BitVec.getLsbD_ushiftRight]
  rfl

theorem ofNat_shift_bits (w v a i : Nat) (_hv : v < 4) (hi : i < w) :
    (BitVec.ofNat w v <<< a).getLsbD i = (decide (a ≤ i) && v.testBit (i - a)) := by
  rw [BitVec.getLsbD_shiftLeft, BitVec.getLsbD_ofNat]
  by_cases h : a ≤ i
  · simp [h, Nat.not_lt.mpr h, hi, show i - a < w by omega]
  · simp [h, Nat.lt_of_not_le h]

/-- well-formed configuration: at least one base, the K lanes fit, full-width types use all lanes -/
structure Cfg.WF (c : Cfg) : Prop where
  hK : 1 ≤ c.K
  hw : 2 * c.K ≤ c.w
  hint : c.var = false → c.w = 2 * c.K

variable {c : Cfg}

/-- `addr` without subtraction: the lanes are counted down from bit `2K` -/
theorem addr_add (pos : Nat) (hp : pos < c.K) : addr c pos + 2 * pos + 2 = 2 * c.K := by
  unfold addr; omega

theorem addr_succ (pos : Nat) (hp : pos + 1 < c.K) : addr c pos = addr c (pos + 1) + 2 := by
  unfold addr; omega

theorem addr_inj (pos q : Nat) (hp : pos < c.K) (hq : q < c.K) (h : addr c pos = addr c q) : pos = q := by
  have := addr_add pos hp; have := addr_add q hq; omega

theorem toSeq_length (s : St c) : (toSeq c s).length = c.K := by simp [toSeq]

theorem toSeq_eq (s : St c) (l : List Nat) (hl : l.length = c.K) (h : ∀ q (hq : q < c.K), get c s q = l[q]) :
    toSeq c s = l := by
  apply List.ext_getElem
  · rw [toSeq_length, hl]
  · intro q h1 _
    rw [toSeq_length] at h1
    simp only [toSeq, List.getElem_map, List.getElem_range]
    exact h q h1

theorem setMut_bits (s : St c) (pos v i : Nat) (hv : v < 4) (hi : i < c.w) :
    (setMut c s pos v).getLsbD i =
      if addr c pos ≤ i ∧ i < addr c pos + 2 then v.testBit (i - addr c pos) else s.getLsbD i := by
  unfold setMut
  simp only [BitVec.getLsbD_or, BitVec.getLsbD_and, BitVec.getLsbD_not, hi, decide_true, Bool.true_and]
  rw [ofNat_shift_bits c.w v _ i hv hi, ofNat_shift_bits c.w 3 _ i (by decide) hi,
    Nat.testBit_two_pow_sub_one 2 (i - addr c pos)]
  by_cases h1 : addr c pos ≤ i
  · by_cases h2 : i < addr c pos + 2
    · simp [h1, h2, show i - addr c pos < 2 by omega]
    · simp [h1, h2, show ¬ i - addr c pos < 2 by omega, testBit_lt4 v _ hv (show 2 ≤ i - addr c pos by omega)]
  · simp [h1]

section
variable (hc : c.WF) (s : St c)
include hc

theorem addr_lt (pos : Nat) (hp : pos < c.K) : addr c pos + 1 < c.w := by
  have := addr_add pos hp; have := hc.hw; omega

theorem get_bits (pos : Nat) :
    get c s pos = 2 * (s.getLsbD (addr c pos + 1)).toNat + (s.getLsbD (addr c pos)).toNat :=
  lane_toNat s _ (by have := hc.hK; have := hc.hw; omega)

theorem get_lt (pos : Nat) : get c s pos < 4 := by
  rw [get_bits hc]
  cases s.getLsbD (addr c pos + 1) <;> cases s.getLsbD (addr c pos) <;> decide

theorem get_eq_iff (t : St c) (pos : Nat) :
    get c s pos = get c t pos ↔
      (s.getLsbD (addr c pos) = t.getLsbD (addr c pos) ∧ s.getLsbD (addr c pos + 1) = t.getLsbD (addr c pos + 1)) := by
  rw [get_bits hc, get_bits hc]
  cases s.getLsbD (addr c pos + 1) <;> cases s.getLsbD (addr c pos) <;>
    cases t.getLsbD (addr c pos + 1) <;> cases t.getLsbD (addr c pos) <;> simp

theorem get_congr (t : St c) (p q : Nat)
    (h : ∀ b, b < 2 → s.getLsbD (addr c p + b) = t.getLsbD (addr c q + b)) : get c s p = get c t q := by
  rw [get_bits hc, get_bits hc, h 1 (by decide), show s.getLsbD (addr c p) = _ from h 0 (by decide)]; rfl

theorem get_eq_of_bits (q v : Nat) (hv : v < 4)
    (h : ∀ b, b < 2 → s.getLsbD (addr c q + b) = v.testBit b) : get c s q = v := by
  rw [get_bits hc, h 1 (by decide), show s.getLsbD (addr c q) = _ from h 0 (by decide)]
  exact toNat_of_testBits v hv

theorem toSeq_lt4 : ∀ d ∈ toSeq c s, d < 4 := by
  intro d hd
  simp only [toSeq, List.mem_map, List.mem_range] at hd
  obtain ⟨q, _, rfl⟩ := hd
  exact get_lt hc s q

theorem get_setMut (pos v q : Nat) (hp : pos < c.K) (hq : q < c.K) (hv : v < 4) :
    get c (setMut c s pos v) q = if q = pos then v else get c s q := by
  have hq1 := addr_lt hc q hq
  split
  next h =>
    subst h
    apply get_eq_of_bits hc _ _ _ hv
    intro b hb
    rw [setMut_bits s q v _ hv (by omega), if_pos (by omega), Nat.add_sub_cancel_left]
  next h =>
    apply get_congr hc
    intro b hb
    rw [setMut_bits s pos v _ hv (by omega), if_neg (by unfold addr; omega)]

theorem toSeq_setMut (pos v : Nat) (hp : pos < c.K) (hv : v < 4) :
    toSeq c (setMut c s pos v) = (toSeq c s).set pos v := by
  apply toSeq_eq _ _ (by rw [List.length_set, toSeq_length])
  intro q hq
  rw [get_setMut hc s pos v q hp hq hv, List.getElem_set]
  simp only [toSeq, List.getElem_map, List.getElem_range, eq_comm (a := q)]

end

/-- representation invariant: no bit outside the 2K used ones -/
def Inv (c : Cfg) (s : St c) : Prop := ∀ i, 2 * c.K ≤ i → s.getLsbD i = false

theorem inv_empty (c : Cfg) : Inv c (empty c) := by intro i _; simp [empty]

theorem inv_of_bits (s : St c) (h : ∀ i, 2 * c.K ≤ i → i < c.w → s.getLsbD i = false) : Inv c s := by
  intro i hi
  by_cases hw : i < c.w
  · exact h i hi hw
  · exact BitVec.getLsbD_of_ge _ _ (by omega)

theorem inv_setMut (s : St c) (pos v : Nat) (hp : pos < c.K) (hv : v < 4) (h : Inv c s) :
    Inv c (setMut c s pos v) := by
  apply inv_of_bits
  intro i hi hw
  rw [setMut_bits s pos v i hv hw, if_neg (by unfold addr; omega)]
  exact h i hi

theorem highMask_bits (w m i : Nat) (hm : m ≤ w) (hi : i < w) :
    (((1#w <<< m) - 1#w) <<< (w - m)).getLsbD i = decide (w ≤ i + m) := by
  obtain ⟨d, rfl⟩ := Nat.exists_eq_add_of_le hm
  rw [BitVec.getLsbD_shiftLeft, Mask.lowMask_getLsbD _ m _ hm, Nat.add_sub_cancel_left]
  by_cases h : d ≤ i
  · simp [hi, Nat.not_lt.mpr h, show i - d < m by omega, show i - d < m + d by omega, show m + d ≤ i + m by omega]
  · simp [Nat.lt_of_not_le h, show ¬ m + d ≤ i + m by omega]

theorem topMask_bits (hc : c.WF) (n i : Nat) (hn : n ≤ c.K) (hi : i < c.w) :
    (topMask c n).getLsbD i = decide (2 * c.K ≤ i + 2 * n) := by
  obtain ⟨slack, hw⟩ := Nat.exists_eq_add_of_le hc.hw
  -- both variants are the top `2n + slack` bits; the full-width type has no slack
  have key : ∀ m, m = n * 2 + slack →
      (if m > 0 then ((1#c.w <<< m) - 1#c.w) <<< (c.w - m) else 0#c.w).getLsbD i = decide (2 * c.K ≤ i + 2 * n) := by
    intro m hm
    split
    · rw [highMask_bits c.w m i (by omega) hi]; exact decide_eq_decide.mpr (by omega)
    · simp; omega
  unfold topMask
  cases hv : c.var
  · have := hc.hint hv
    simp only [Bool.false_eq_true, if_false, show n > 0 ↔ n * 2 > 0 by omega]
    exact key _ (by omega)
  · exact key _ (by rw [hw]; omega)

theorem bottomMask_bits (m i : Nat) (hm : 2 * m ≤ c.w) (hi : i < c.w) :
    (bottomMask c m).getLsbD i = decide (i < 2 * m) := by
  unfold bottomMask
  split
  · rw [Mask.lowMask_getLsbD c.w (m * 2) i (by omega)]
    simp [hi, Nat.mul_comm]
  · simp; omega

end Kmer
