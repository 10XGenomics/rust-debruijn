import Dbg.Lemmas.Idempotent
import Dbg.Model.Pipeline
/-! Payload totals: with the saturating-sum reduction of the pipelines, the payload of every node — of the graph built
    from a table, of the shard graphs side by side, and of a re-compressed graph — is the saturated sum of the counts of
    its k-mers. -/
namespace Compress
open Walk (Dir)
open Filter (ExtSym2 removeCensoredExts Payload)
open Graph (G fixExts)
open Pipeline (sumReduce)
open CompressGraph (compressGraph payloadFold)

def satMax : Nat := 2 ^ 32 - 1

def cntOf (p : Payload) : Nat := p.headD 0

def cntAt (T : Table Payload) (i : Nat) : Nat := match T[i]? with | some e => cntOf e.data | none => 0

def GoodData (T : Table Payload) : Prop := ∀ e ∈ T, ∃ c, c ≤ satMax ∧ e.data = [c]

theorem sumReduce_eq (a b : Payload) : sumReduce a b = [min (cntOf a + cntOf b) satMax] := rfl

theorem cnt_single (c : Nat) : cntOf [c] = c := rfl

/-! Saturation commutes with summation; nothing here depends on the value of the cap. -/

theorem min_add_min (x y : Nat) : min (min x satMax + y) satMax = min (x + y) satMax := by
  rcases Nat.le_total x satMax with h | h
  · rw [Nat.min_eq_left h]
  · rw [Nat.min_eq_right h, Nat.min_eq_right (Nat.le_add_right satMax y), Nat.min_eq_right (Nat.le_trans h (Nat.le_add_right x y))]

theorem min_add_min' (x y : Nat) : min (x + min y satMax) satMax = min (x + y) satMax := by
  rw [Nat.add_comm, min_add_min, Nat.add_comm]

theorem sum_min_cap (l : List Nat) : min ((l.map fun s => min s satMax).sum) satMax = min l.sum satMax := by
  induction l with
  | nil => rfl
  | cons a t ih => rw [List.map_cons, List.sum_cons, List.sum_cons, min_add_min, ← min_add_min', ih, min_add_min']

theorem fold_sumReduce (cs : List Nat) (c0 : Nat) :
    cntOf (cs.foldl (fun a c => sumReduce a [c]) [c0]) = if cs = [] then c0 else min (c0 + cs.sum) satMax := by
  induction cs generalizing c0 with
  | nil => rfl
  | cons c t ih =>
    rw [List.foldl_cons, sumReduce_eq, cnt_single, cnt_single, ih]
    by_cases ht : t = []
    · subst ht; simp
    · simp only [ht, if_false, List.cons_ne_nil, List.sum_cons]
      rw [min_add_min]; congr 1; omega

/-- a weight summed along a path "left walk reversed, seed, right walk" -/
theorem sum_seed_walks {α γ} (v : γ → Nat) (g : α → γ) (l : List α) (s : γ) (r : List γ) :
    (((l.map g).reverse ++ [s] ++ r).map v).sum = v s + ((l.map fun p => v (g p)) ++ r.map v).sum := by
  simp only [List.map_append, List.map_reverse, List.map_map, List.sum_append, List.sum_reverse, List.map_cons, List.map_nil,
    List.sum_cons, List.sum_nil, Function.comp_def]
  omega

theorem foldl_sat {α} (F : Payload → α → Payload) (w : α → Nat) (hF : ∀ c p, c ≤ satMax → F [c] p = [min (c + w p) satMax]) :
    ∀ (ps : List α) (c0 : Nat), c0 ≤ satMax → ps.foldl F [c0] = [min (c0 + (ps.map w).sum) satMax] := by
  intro ps
  induction ps with
  | nil => intro c0 h0; simp [Nat.min_eq_left h0]
  | cons p t ih =>
    intro c0 h0
    rw [List.foldl_cons, hF c0 p h0, ih _ (Nat.min_le_right _ _), List.map_cons, List.sum_cons, min_add_min, Nat.add_assoc]

theorem cntAt_good {T : Table Payload} (hg : GoodData T) (i : Nat) (e : Entry Payload) (h : T[i]? = some e) :
    e.data = [cntAt T i] ∧ cntAt T i ≤ satMax := by
  obtain ⟨c, hc, hd⟩ := hg e (List.mem_of_getElem? h)
  have e1 : cntAt T i = c := by unfold cntAt; rw [h]; simp only; rw [hd]; rfl
  rw [e1]
  exact ⟨hd, hc⟩

def cntK (T : Table Payload) (k : Seq) : Nat := match findId T k with | some i => cntAt T i | none => 0

theorem cntK_keyOf {T : Table Payload} {K : Nat} {st : Bool} (wf : WF T K st) (i : Nat) (hi : i < T.length) :
    cntK T (keyOf T i) = cntAt T i := by
  have he : T[i]? = some T[i] := List.getElem?_eq_getElem hi
  unfold cntK
  rw [keyOf_of_get he, findId_self wf he]

def KData (T : Table Payload) (K : Nat) (st : Bool) (n : Node Payload) : Prop :=
  n.data = [min (((canonKeys K st n).map (cntK T)).sum) satMax]

/-- A built node's payload is the fold of the reduction from the seed along the left and the right walk, so `foldl_sat`
    applies. -/
theorem compress_kdata {T : Table Payload} {K : Nat} {st : Bool} {join : Payload → Payload → Bool}
    (wf : WF T K st) (hes : ExtSym T st) (hj : ∀ a b, join a b = join b a) (hg : GoodData T)
    (out : List (Node Payload × List Nat)) (ho : compressKmersC T st join sumReduce = some out) :
    ∀ x ∈ out, KData T K st x.1 := by
  intro x hx
  obtain ⟨provs, hB⟩ := built_of_compress sumReduce wf hes hj out ho
  obtain ⟨hw, _, hcov⟩ := compressKmersC_spec sumReduce wf hes hj out ho
  -- the seed and the two walks of the node
  obtain ⟨i, hi, hxi⟩ := List.getElem_of_mem hx
  have hxi' : out[i]? = some x := by rw [List.getElem?_eq_getElem hi, hxi]
  obtain ⟨pr, hpr⟩ : ∃ pr, provs[i]? = some pr := ⟨_, List.getElem?_eq_getElem (by rw [hB.len]; exact hi)⟩
  obtain ⟨hlt, _, a', hb⟩ := hB.prov i x pr hxi' hpr
  have hs : T[pr.2]? = some T[pr.2] := List.getElem?_eq_getElem hlt
  obtain ⟨nd, hb', _, hdata⟩ := buildNodeC_spec (join := join) sumReduce wf hes pr.1 pr.2 T[pr.2] hs
  rw [hb] at hb'
  simp only [Option.some.injEq, Prod.mk.injEq] at hb'
  obtain ⟨hnd, hids, _⟩ := hb'
  subst hnd
  have hbuild : (Walk.build (linkOf T st join) pr.1 pr.2).1 =
      ((leftW T st join pr.1 pr.2).1.map Prod.fst).reverse ++ [pr.2] ++ (rightW T st join pr.1 pr.2).1.map Prod.fst := rfl
  have hrange : ∀ z ∈ x.2, z < T.length := fun z hz =>
    (hcov z).mp (List.mem_flatten.mpr ⟨x.2, List.mem_map_of_mem hx, hz⟩)
  unfold KData canonKeys
  rw [(hw x hx).1, List.map_map, hdata, (cntAt_good hg _ _ hs).1,
    foldl_sat _ (fun p => cntAt T p.1) (fun c p hc => by
      unfold cntAt
      cases T[p.1]? with
      | none => simp only [Nat.add_zero, Nat.min_eq_left hc]
      | some e => rfl) _ _ (cntAt_good hg _ _ hs).2,
    List.map_congr_left (f := cntK T ∘ keyOf T) (g := cntAt T) (fun z hz => cntK_keyOf wf z (hrange z hz)), hids, hbuild]
  congr 2
  rw [sum_seed_walks, List.map_append, List.map_map]; rfl

theorem cntAt_append_left (A B : Table Payload) (i : Nat) (h : i < A.length) : cntAt (A ++ B) i = cntAt A i := by
  unfold cntAt; rw [List.getElem?_append_left h]

theorem cntAt_append_right (A B : Table Payload) (i : Nat) : cntAt (A ++ B) (A.length + i) = cntAt B i := by
  unfold cntAt; rw [getElem?_append_off]

theorem cntK_append_left (A B : Table Payload) (k : Seq) (h : k ∈ A.map (·.key)) : cntK (A ++ B) k = cntK A k := by
  obtain ⟨y, hy⟩ := findId_isSome_of_mem A k h
  unfold cntK
  rw [findId_append_left A B k y hy, hy]
  obtain ⟨e, he, _⟩ := findId_some hy
  exact cntAt_append_left A B y (List.getElem?_eq_some_iff.mp he).1

theorem cntK_append_right {A B : Table Payload} {K : Nat} {st : Bool} (wf : WF (A ++ B) K st) (k : Seq) (h : k ∈ B.map (·.key)) :
    cntK (A ++ B) k = cntK B k := by
  obtain ⟨y, hy⟩ := findId_isSome_of_mem B k h
  unfold cntK
  rw [findId_append_right wf k y hy, hy]
  exact cntAt_append_right A B y

theorem kdata_congr {T T' : Table Payload} {K : Nat} {st : Bool} (n : Node Payload)
    (h : ∀ k ∈ canonKeys K st n, cntK T k = cntK T' k) (hd : KData T K st n) : KData T' K st n := by
  unfold KData at *
  rw [hd]
  congr 3
  exact List.map_congr_left h

theorem goodData_append_left {A B : Table Payload} (h : GoodData (A ++ B)) : GoodData A :=
  fun e he => h e (List.mem_append_left _ he)
theorem goodData_append_right {A B : Table Payload} (h : GoodData (A ++ B)) : GoodData B :=
  fun e he => h e (List.mem_append_right _ he)

theorem built_keys_sub {T : Table Payload} {K : Nat} {st : Bool} {join : Payload → Payload → Bool}
    (wf : WF T K st) (hes : ExtSym T st) (hj : ∀ a b, join a b = join b a)
    (out : List (Node Payload × List Nat)) (ho : compressKmersC T st join sumReduce = some out) :
    ∀ x ∈ out, ∀ k ∈ canonKeys K st x.1, k ∈ T.map (·.key) := by
  obtain ⟨out', ho', hperm, _⟩ := compressKmersC_partition (join := join) sumReduce wf hes hj
  rw [ho] at ho'; cases ho'
  intro x hx k hk
  apply hperm.mem_iff.mp
  exact List.mem_flatMap.mpr ⟨x, hx, hk⟩

theorem allBuilt_kdata {K : Nat} {st : Bool} (join : Payload → Payload → Bool) (hj : ∀ a b, join a b = join b a) :
    ∀ (Ts : List (Table Payload)) (outs : List (List (Node Payload × List Nat))), WF Ts.flatten K st → ExtSym2 Ts.flatten st →
      GoodData Ts.flatten → AllBuilt st join sumReduce Ts outs →
      ∀ n ∈ (outs.map fun o => o.map (·.1)).flatten, KData Ts.flatten K st n ∧ ∀ k ∈ canonKeys K st n, k ∈ Ts.flatten.map (·.key) := by
  intro Ts
  induction Ts with
  | nil =>
    intro outs _ _ _ hb n hn
    cases outs with
    | nil => simp at hn
    | cons _ _ => exact absurd hb (by simp [AllBuilt])
  | cons T Ts ih =>
    intro outs wf hes hg hb n hn
    cases outs with
    | nil => exact absurd hb (by simp [AllBuilt])
    | cons o os =>
      obtain ⟨ho, hbs⟩ : compressKmersC T st join sumReduce = some o ∧ AllBuilt st join sumReduce Ts os := hb
      rw [List.flatten_cons] at wf hes hg ⊢
      have wfT := wf_append_left wf
      have hesT := extSym2_append_left hes
      simp only [List.map_cons, List.flatten_cons, List.mem_append] at hn
      rcases hn with hn | hn
      · obtain ⟨x, hx, rfl⟩ := List.mem_map.mp hn
        have hsub := built_keys_sub wfT hesT.toExtSym hj o ho x hx
        have hkd := compress_kdata wfT hesT.toExtSym hj (goodData_append_left hg) o ho x hx
        refine ⟨kdata_congr x.1 (fun k hk => (cntK_append_left T Ts.flatten k (hsub k hk)).symm) hkd, fun k hk => ?_⟩
        rw [List.map_append]; exact List.mem_append_left _ (hsub k hk)
      · obtain ⟨hkd, hsub⟩ := ih os (wf_append_right wf) (extSym2_append_right wf hes) (goodData_append_right hg) hbs n hn
        refine ⟨kdata_congr n (fun k hk => (cntK_append_right wf k (hsub k hk)).symm) hkd, fun k hk => ?_⟩
        rw [List.map_append]; exact List.mem_append_right _ (hsub k hk)

theorem sum_flatMap {α} (l : List α) (h : α → List Nat) : (l.flatMap h).sum = (l.map fun a => (h a).sum).sum := by
  induction l with
  | nil => rfl
  | cons a t ih => rw [List.flatMap_cons, List.sum_append, ih, List.map_cons, List.sum_cons]

def cntN (g : G Payload) (i : Nat) : Nat := match g.nodes[i]? with | some n => cntOf n.data | none => 0

theorem foldl_payloadFold_none {D : Type} (g : G D) (reduce : D → D → D) (l : List (Nat × Dir)) :
    l.foldl (payloadFold g reduce) none = none := by
  induction l with
  | nil => rfl
  | cons a l ih => rw [List.foldl_cons]; exact ih

theorem payloadFold_sat (g : G Payload) : ∀ (ps : List (Nat × Dir)) (c0 : Nat) (d : Payload), c0 ≤ satMax →
    ps.foldl (payloadFold g sumReduce) (some [c0]) = some d → d = [min (c0 + (ps.map fun p => cntN g p.1).sum) satMax] := by
  intro ps
  induction ps with
  | nil =>
    intro c0 d h0 h
    simp only [List.foldl_nil, Option.some.injEq] at h
    rw [← h]; simp [Nat.min_eq_left h0]
  | cons p t ih =>
    intro c0 d h0 h
    rw [List.foldl_cons] at h
    cases hn : g.nodes[p.1]? with
    | none =>
      have : payloadFold g sumReduce (some [c0]) p = none := by unfold payloadFold; rw [hn]; rfl
      rw [this, foldl_payloadFold_none] at h; cases h
    | some n =>
      have : payloadFold g sumReduce (some [c0]) p = some [min (c0 + cntN g p.1) satMax] := by
        unfold payloadFold cntN; rw [hn]; rfl
      rw [this] at h
      rw [ih _ d (Nat.min_le_right _ _) h, List.map_cons, List.sum_cons, min_add_min, Nat.add_assoc]

def keySum (T : Table Payload) (K : Nat) (st : Bool) (n : Node Payload) : Nat := ((canonKeys K st n).map (cntK T)).sum

theorem kdata_iff (T : Table Payload) (K : Nat) (st : Bool) (n : Node Payload) : KData T K st n ↔ n.data = [min (keySum T K st n) satMax] := Iff.rfl

/-- `fix_exts` keeps sequences and payloads -/
theorem fixExts_kdata {T : Table Payload} {K : Nat} {st : Bool} (g : G Payload) (valid : Option (List Nat))
    (h : ∀ n ∈ g.nodes, KData T K st n) : ∀ n' ∈ (fixExts g valid).nodes, KData T K st n' := by
  intro n' hn'
  obtain ⟨i, hi, e⟩ := List.getElem_of_mem hn'
  have hi' : (fixExts g valid).nodes[i]? = some n' := by rw [List.getElem?_eq_getElem hi, e]
  obtain ⟨n0, h0, hs, hd, _⟩ := CompressGraph.fixExts_node g valid i n' hi'
  have := h n0 (List.mem_of_getElem? h0)
  unfold KData canonKeys at *
  rw [hs, hd]; exact this

/-- the key sum of the node at position `i` of a graph -/
def keySumAt (T : Table Payload) (st : Bool) (g : G Payload) (i : Nat) : Nat :=
  match g.nodes[i]? with | some n => keySum T g.K st n | none => 0

theorem cntN_of_kdata {T : Table Payload} {st : Bool} (g : G Payload) (hkd : ∀ n ∈ g.nodes, KData T g.K st n) (i : Nat) :
    cntN g i = min (keySumAt T st g i) satMax := by
  unfold cntN keySumAt
  cases hn : g.nodes[i]? with
  | none => rfl
  | some n => simp only; rw [(kdata_iff T g.K st n).mp (hkd n (List.mem_of_getElem? hn))]; rfl

/-- the k-mers of a node spelled by a path are those of the path's nodes, each node's in one order or the other, so its
    key sum is the sum of theirs -/
theorem keySum_of_path {T : Table Payload} {st : Bool} (g : G Payload) (path : List (Nat × Dir)) (nd : Node Payload)
    (hw : windowsOf g.K nd.seq = path.flatMap (Graph.orientedKmers g))
    (hl : ∀ (i : Nat) (n : Node Payload), g.nodes[i]? = some n → g.K ≤ n.seq.length) (hdir : st = true → ∀ q ∈ path, q.2 = Dir.L) :
    keySum T g.K st nd = (path.map fun q => keySumAt T st g q.1).sum := by
  unfold keySum
  rw [canonKeys_of_path g st path nd hw (fun q _ nq hnq => hl q.1 nq hnq) hdir, List.map_flatMap, sum_flatMap]
  congr 1
  apply List.map_congr_left
  intro q _
  unfold keySumAt
  cases g.nodes[q.1]? with
  | none => rfl
  | some nq => cases q.2 <;> simp only [if_true, if_false, reduceCtorEq, List.map_reverse, List.sum_reverse] <;> rfl

/-- A node `build_node` assembles in a graph whose nodes carry the capped count totals of their k-mers carries the capped
    total of its own: its payload is the fold along the path (`payloadFold_sat`), its k-mers are those of the path's nodes. -/
theorem buildNode_kdata {T : Table Payload} {st : Bool} (g : G Payload) (hK : 1 ≤ g.K)
    (hl : ∀ (i : Nat) (n : Node Payload), g.nodes[i]? = some n → g.K ≤ n.seq.length)
    (hkd : ∀ n ∈ g.nodes, KData T g.K st n) (join : Payload → Payload → Bool) (av : List Nat) (seed : Nat)
    (nd : Node Payload) (path : List (Nat × Dir)) (a' : List Nat)
    (hb : CompressGraph.buildNode g st join sumReduce av seed = some (nd, path, a')) (hdir : st = true → ∀ q ∈ path, q.2 = Dir.L) :
    KData T g.K st nd := by
  have hcnt := cntN_of_kdata g hkd
  obtain ⟨hw, _, _⟩ := CompressGraph.buildNode_kmers g hK hl st join sumReduce av seed nd path a' hb
  obtain ⟨sn, lpath, rpath, hsn, hpath, hdata⟩ := CompressGraph.buildNode_payload g st join sumReduce av seed nd path a' hb
  -- the payload: the seed's count plus the counts along the two walks
  have hseed : sn.data = [cntN g seed] ∧ cntN g seed ≤ satMax := by
    rw [hcnt seed]
    have : keySumAt T st g seed = keySum T g.K st sn := by unfold keySumAt; rw [hsn]
    rw [this]
    exact ⟨hkd sn (List.mem_of_getElem? hsn), Nat.min_le_right _ _⟩
  rw [← List.foldl_append, hseed.1] at hdata
  have e2 := payloadFold_sat g (lpath ++ rpath) _ nd.data hseed.2 hdata.symm
  have hL : cntN g seed + ((lpath ++ rpath).map fun p => cntN g p.1).sum =
      ((keySumAt T st g seed :: (lpath ++ rpath).map fun p => keySumAt T st g p.1).map fun s => min s satMax).sum := by
    simp only [List.map_cons, List.map_map, List.sum_cons, hcnt, Function.comp_def]
  rw [kdata_iff, e2, keySum_of_path g path nd hw hl hdir, hpath, hL, sum_min_cap]
  congr 2
  rw [sum_seed_walks, List.map_append]; rfl

theorem compressGraph_kdata (T : Table Payload) (K : Nat) (hK : 1 ≤ K) (st : Bool) (nodes : List (Node Payload))
    (hl : ∀ (i : Nat) (n : Node Payload), nodes[i]? = some n → K ≤ n.seq.length)
    (hkd : ∀ n ∈ nodes, KData T K st n) (join : Payload → Payload → Bool)
    (g' : G Payload) (paths : List (List (Nat × Dir)))
    (h : compressGraph st (⟨K, nodes, st⟩ : G Payload) join sumReduce [] = some (g', paths)) :
    ∀ n' ∈ g'.nodes, KData T K st n' := by
  have hdirs := CompressGraph.compressGraph_dirs_stranded (⟨K, nodes, st⟩ : G Payload) hK hl
  obtain ⟨out, hloop, hg', hpaths⟩ := CompressGraph.compressGraph_some st _ join sumReduce [] g' paths h
  generalize ((List.range (⟨K, nodes, st⟩ : G Payload).nodes.length).filter fun i => !([] : List Nat).contains i) = valid at hloop
  have sh1 := CompressGraph.fixExts_shape (⟨K, nodes, st⟩ : G Payload) (some valid)
  have hkd1 := fixExts_kdata (⟨K, nodes, st⟩ : G Payload) (some valid) hkd
  have hl1 := CompressGraph.shape_len _ _ sh1 hl
  generalize fixExts (⟨K, nodes, st⟩ : G Payload) (some valid) = g1 at *
  have hK1 : g1.K = K := sh1.1
  intro n' hn'
  rw [hg'] at hn'
  refine fixExts_kdata _ none (fun n0 hn0 => ?_) n' hn'
  obtain ⟨np, hnp, rfl⟩ := List.mem_map.mp hn0
  obtain ⟨av, seed, a', _, _, hb⟩ := CompressGraph.compressLoop_built g1 st join sumReduce _ _ out hloop np hnp
  rw [← hK1] at hkd1 hK ⊢
  exact buildNode_kdata g1 hK hl1 hkd1 join av seed np.1 np.2 a' hb (fun hst =>
    hdirs hst st join sumReduce [] g' paths h np.2 (by rw [hpaths]; exact List.mem_map_of_mem hnp))

theorem cntK_of_mem {T : Table Payload} {K : Nat} {st : Bool} (wf : WF T K st) (e : Entry Payload) (he : e ∈ T) :
    cntK T e.key = cntOf e.data := by
  obtain ⟨i, hi⟩ := List.mem_iff_getElem?.mp he
  have hlt := (List.getElem?_eq_some_iff.mp hi).1
  rw [← keyOf_of_get hi, cntK_keyOf wf i hlt]
  unfold cntAt; rw [hi]

theorem data_eq_of_same_keys {T T' : Table Payload} {K : Nat} {st : Bool} (n m : Node Payload)
    (hn : KData T K st n) (hm : KData T' K st m) (hnd : (canonKeys K st n).Nodup) (hmd : (canonKeys K st m).Nodup)
    (hk : ∀ k, k ∈ canonKeys K st n ↔ k ∈ canonKeys K st m) (hc : ∀ k ∈ canonKeys K st n, cntK T k = cntK T' k) :
    n.data = m.data := by
  unfold KData at hn hm
  rw [hn, hm]
  congr 2
  have hperm : (canonKeys K st n).Perm (canonKeys K st m) := (List.perm_ext_iff_of_nodup hnd hmd).mpr hk
  rw [List.map_congr_left hc]
  exact (hperm.map (cntK T')).sum_nat

theorem refTable_goodData (K : Nat) (reads : List (Seq × Exts × Nat)) (thr : Nat) (st : Bool) :
    GoodData (Filter.refTable K reads (.count thr) st) := by
  intro e he
  unfold Filter.refTable at he
  obtain ⟨g, _, hr⟩ := List.mem_filterMap.mp he
  obtain ⟨k, obs⟩ := g
  simp only at hr
  split at hr
  · cases hr
    refine ⟨min obs.length Gen.countSaturation, ?_, rfl⟩
    have : Gen.countSaturation ≤ satMax := by decide
    exact Nat.le_trans (Nat.min_le_right _ _) this
  · cases hr

theorem listing_entries {D : Type} {R Td : Table D} {st : Bool} (hperm : Td.Perm (removeCensoredExts st R)) :
    ∀ ed ∈ Td, ∃ e0 ∈ R, ed.key = e0.key ∧ ed.data = e0.data := by
  intro ed hed
  obtain ⟨e0, h0, hk, hd, _⟩ := Filter.pruned_of_mem st R ed (hperm.mem_iff.mp hed)
  exact ⟨e0, h0, hk, hd⟩

theorem listing_kdata {R Td : Table Payload} {K : Nat} {st : Bool} (wfR : WF R K st) (hesR : ExtSym2 R st) (hgR : GoodData R)
    (hperm : Td.Perm (removeCensoredExts st R)) (outd : List (Node Payload × List Nat))
    (hod : compressKmersC Td st (fun _ _ => true) sumReduce = some outd) :
    ∀ n ∈ outd.map (·.1), KData R K st n ∧ (canonKeys K st n).Nodup ∧ ∀ k ∈ canonKeys K st n, k ∈ R.map (·.key) := by
  obtain ⟨wfd, hesd, _⟩ := pruned_listing wfR hesR hperm
  have hent := listing_entries hperm
  have hgd : GoodData Td := by
    intro e he
    obtain ⟨e0, he0, _, hd⟩ := hent e he
    rw [hd]; exact hgR e0 he0
  have hkdd := compress_kdata wfd hesd.toExtSym (fun _ _ => rfl) hgd outd hod
  obtain ⟨portd, memd, pgd, _⟩ := pgraph_of_compress sumReduce wfd hesd.toExtSym (fun _ _ => rfl) outd hod
  intro n hn
  obtain ⟨x, hx, rfl⟩ := List.mem_map.mp hn
  obtain ⟨j, hj, ej⟩ := List.getElem_of_mem hn
  have hsub := built_keys_sub wfd hesd.toExtSym (fun _ _ => rfl) outd hod x hx
  have hkeyR : ∀ k ∈ canonKeys K st x.1, k ∈ R.map (·.key) ∧ cntK Td k = cntK R k := by
    intro k hk
    obtain ⟨ed, hed, hked⟩ := List.mem_map.mp (hsub k hk)
    obtain ⟨e0, he0, hk0, hd0⟩ := hent ed hed
    refine ⟨by rw [← hked, hk0]; exact List.mem_map_of_mem he0, ?_⟩
    rw [← hked, cntK_of_mem wfd ed hed, hk0, cntK_of_mem wfR e0 he0, hd0]
  exact ⟨kdata_congr x.1 (fun k hk => (hkeyR k hk).2) (hkdd x hx),
    pgd.canon_nodup wfd (by rw [List.getElem?_eq_getElem hj, ej]), fun k hk => (hkeyR k hk).1⟩

/-- In the setting of `sharded_eq_direct_abstract` with the saturating-sum reduction and count payloads, a node of the
    re-compressed combination and a node of the one-pass graph that have the same k-mers have the same payload. -/
theorem sharded_payload_abstract {R : Table Payload} {K : Nat} {st : Bool} (wfR : WF R K st) (hesR : ExtSym2 R st) (hgR : GoodData R)
    (Ts : List (Table Payload)) (sw : Sandwich st Ts.flatten R)
    (join0 : Payload → Payload → Bool) (hj0 : ∀ a b, join0 a b = join0 b a)
    (Td : Table Payload) (hperm : Td.Perm (removeCensoredExts st R)) :
    ∃ outs g' paths outd, AllBuilt st join0 sumReduce Ts outs ∧
      compressGraph st (⟨K, (outs.map fun o => o.map (·.1)).flatten, st⟩ : G Payload) (fun _ _ => true) sumReduce [] = some (g', paths) ∧
      compressKmersC Td st (fun _ _ => true) sumReduce = some outd ∧
      ∀ n ∈ g'.nodes, ∀ m ∈ outd.map (·.1), (∀ k, k ∈ canonKeys K st n ↔ k ∈ canonKeys K st m) → n.data = m.data := by
  have hgU : GoodData Ts.flatten := by
    intro e he
    obtain ⟨er, her, _, hd, _⟩ := sw.ent e he
    rw [hd]; exact hgR er her
  obtain ⟨wfU, hesU, outs, g', paths, port', mem', hb, hlen, hcg, pg3, _⟩ := sharded_ported wfR hesR Ts sw sumReduce join0 hj0
  have hkd0 := allBuilt_kdata join0 hj0 Ts outs wfU hesU hgU hb
  have hkd1 := compressGraph_kdata Ts.flatten K wfU.kpos st _ hlen (fun n hn => (hkd0 n hn).1) _ g' paths hcg
  obtain ⟨wfd, hesd, _⟩ := pruned_listing wfR hesR hperm
  obtain ⟨outd, hod, _, _⟩ := compressKmersC_partition (join := fun _ _ => true) sumReduce wfd hesd.toExtSym (fun _ _ => rfl)
  have hkdd := listing_kdata wfR hesR hgR hperm outd hod
  refine ⟨outs, g', paths, outd, hb, hcg, hod, fun n hn m hm hk => ?_⟩
  obtain ⟨i, hi, ei⟩ := List.getElem_of_mem hn
  obtain ⟨kdm, ndm, hsubm⟩ := hkdd m hm
  have wf2 := Filter.wf_removeCensored st _ K (Filter.wf_removeCensored st _ K wfU)
  apply data_eq_of_same_keys n m (hkd1 n hn) kdm (pg3.canon_nodup wf2 (by rw [List.getElem?_eq_getElem hi, ei])) ndm hk
  -- the sandwiched table and the reference table agree on the counts of the node's k-mers
  intro k hkn
  obtain ⟨eu, heu, hkeu⟩ := List.mem_map.mp (sw.keys.mem_iff.mpr (hsubm k ((hk k).mp hkn)))
  obtain ⟨er, her, hkr, hdr, _⟩ := sw.ent eu heu
  rw [← hkeu, cntK_of_mem wfU eu heu, hkr, cntK_of_mem wfR er her, hdr]

end Compress
