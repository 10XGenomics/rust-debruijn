import Dbg.Lemmas.MspIntervals
import Dbg.Spec.C08
import Dbg.Lemmas.Window
import Dbg.Lemmas.Lex
/-! The bucket of a piece is a function of each of its k-mers alone (C08, bucket clause). -/
namespace Msp
open Compress (Seq Base rc rank)

theorem rank_eq_val (w : Seq) : rank w = Lex.val (w.map (·.val)) := by
  unfold rank Lex.val
  rw [List.foldl_map]
  congr 1
  funext a b; rw [Nat.mul_comm]

theorem rank_inj (w1 w2 : Seq) (hl : w1.length = w2.length) (h : rank w1 = rank w2) : w1 = w2 := by
  rw [rank_eq_val, rank_eq_val] at h
  have d1 : ∀ d ∈ w1.map (·.val), d < 4 := by intro d hd; obtain ⟨b, _, rfl⟩ := List.mem_map.mp hd; exact b.isLt
  have d2 : ∀ d ∈ w2.map (·.val), d < 4 := by intro d hd; obtain ⟨b, _, rfl⟩ := List.mem_map.mp hd; exact b.isLt
  have hl' : (w1.map (·.val)).length = (w2.map (·.val)).length := by simp [hl]
  have e := Lex.val_inj _ _ hl' d1 d2 h
  exact (List.map_inj_right fun _ _ => Fin.ext).mp e

theorem rank_lt (w : Seq) : rank w < 4 ^ w.length := by
  rw [rank_eq_val]
  have := Lex.val_lt (w.map (·.val)) (by intro d hd; obtain ⟨b, _, rfl⟩ := List.mem_map.mp hd; exact b.isLt)
  simpa using this

theorem minRc_rc (w : Seq) : minRc (rc w) = minRc w := by
  unfold minRc
  rw [Compress.rc_rc]
  rcases Std.lt_trichotomy w (rc w) with h | h | h
  · rw [if_pos h, if_neg (List.lt_asymm h)]
  · rw [← h]
  · rw [if_neg (List.lt_asymm h), if_pos h]

/-- the first minimal-score element of a non-empty list, as computed by the fold of `bucketOf` -/
def firstMin (sc : Seq → Nat) (w : Seq) (rest : List Seq) : Seq :=
  rest.foldl (fun best c => if sc c < sc best then c else best) w

theorem firstMin_spec (sc : Seq → Nat) : ∀ (rest : List Seq) (w : Seq),
    firstMin sc w rest ∈ w :: rest ∧ ∀ c ∈ w :: rest, sc (firstMin sc w rest) ≤ sc c := by
  intro rest
  induction rest with
  | nil => intro w; simp [firstMin]
  | cons c t ih =>
    intro w
    -- after `c` the running best is one of `w`, `c` and scores no more than either
    obtain ⟨w', e, hw', hw, hc⟩ : ∃ w', firstMin sc w (c :: t) = firstMin sc w' t ∧ (w' = w ∨ w' = c) ∧ sc w' ≤ sc w ∧ sc w' ≤ sc c := by
      by_cases h : sc c < sc w
      · exact ⟨c, by simp [firstMin, h], Or.inr rfl, Nat.le_of_lt h, Nat.le_refl _⟩
      · exact ⟨w, by simp [firstMin, h], Or.inl rfl, Nat.le_refl _, Nat.le_of_not_lt h⟩
    obtain ⟨i1, i2⟩ := ih w'
    have hbest := i2 w' (List.mem_cons_self ..)
    rw [e]
    constructor
    · rcases List.mem_cons.mp i1 with h | h
      · rw [h]; rcases hw' with rfl | rfl <;> simp
      · exact List.mem_cons_of_mem _ (List.mem_cons_of_mem _ h)
    · intro x hx
      rcases List.mem_cons.mp hx with rfl | hx
      · exact Nat.le_trans hbest hw
      · rcases List.mem_cons.mp hx with rfl | hx
        · exact Nat.le_trans hbest hc
        · exact i2 x (List.mem_cons_of_mem _ hx)

def PermInj (perm : Array Nat) : Prop := ∀ i j : Nat, i < perm.size → j < perm.size → perm[i]?.getD 0 = perm[j]?.getD 0 → i = j

theorem min_eq_min_cases (a a' b b' : Nat) (h : min a a' = min b b') : a = b ∨ a = b' ∨ a' = b ∨ a' = b' := by
  rw [Nat.min_def, Nat.min_def] at h
  split at h <;> split at h
  · exact Or.inl h
  · exact Or.inr (Or.inl h)
  · exact Or.inr (Or.inr (Or.inl h))
  · exact Or.inr (Or.inr (Or.inr h))

theorem score_class (perm : Array Nat) (rcMode : Bool) (p : Nat) (hsz : perm.size = 4 ^ p) (hinj : PermInj perm)
    (w w' : Seq) (hw : w.length = p) (hw' : w'.length = p) (h : permScore perm rcMode w = permScore perm rcMode w') :
    minRc w = minRc w' := by
  have rl : ∀ v : Seq, v.length = p → rank v < perm.size := fun v hv => by rw [hsz, ← hv]; exact rank_lt v
  have eqv : ∀ v v' : Seq, v.length = p → v'.length = p → perm[rank v]?.getD 0 = perm[rank v']?.getD 0 → v = v' :=
    fun v v' hv hv' e => rank_inj v v' (by rw [hv, hv']) (hinj _ _ (rl v hv) (rl v' hv') e)
  have hrc : ∀ v : Seq, v.length = p → (rc v).length = p := fun v hv => by rw [Compress.rc_length, hv]
  unfold permScore at h
  cases rcMode with
  | false =>
    simp only [Bool.false_eq_true, if_false] at h
    rw [eqv w w' hw hw' h]
  | true =>
    simp only [if_true] at h
    rcases min_eq_min_cases _ _ _ _ h with e | e | e | e
    · rw [eqv w w' hw hw' e]
    · rw [eqv w (rc w') hw (hrc w' hw') e, minRc_rc]
    · rw [← minRc_rc w, eqv (rc w) w' (hrc w hw) hw' e]
    · rw [← minRc_rc w, eqv (rc w) (rc w') (hrc w hw) (hrc w' hw') e, minRc_rc]

theorem pmersOf_eq (p : Nat) (x : Seq) :
    pmersOf p x = (x.take p) :: ((List.range (x.length - p)).map fun j => (x.drop (j + 1)).take p) := by
  unfold pmersOf
  rw [List.range_succ_eq_map]
  simp [Function.comp_def]

theorem mem_pmersOf (p : Nat) (x : Seq) (hp : p ≤ x.length) (w : Seq) :
    w ∈ pmersOf p x ↔ ∃ j, j + p ≤ x.length ∧ w = Filter.win x p j := by
  unfold pmersOf
  simp only [List.mem_map, List.mem_range, Filter.win, eq_comm, Nat.lt_succ_iff, Nat.le_sub_iff_add_le hp]

theorem mem_pmersOf_window (seq : Array Base) (k p a : Nat) (hpk : p ≤ k) (hle : a + k ≤ seq.size) (w : Seq) :
    w ∈ pmersOf p (window seq k a) ↔ ∃ i, i + p ≤ k ∧ w = window seq p (a + i) := by
  rw [mem_pmersOf p _ (by rw [window_length seq k a hle]; exact hpk), window_length seq k a hle]
  constructor
  · rintro ⟨i, hi, rfl⟩; exact ⟨i, hi, window_window seq k a p i hi⟩
  · rintro ⟨i, hi, rfl⟩; exact ⟨i, hi, (window_window seq k a p i hi).symm⟩

theorem bucketOf_best (perm : Array Nat) (rcMode : Bool) (p : Nat) (x : Seq) :
    ∃ best, best ∈ pmersOf p x ∧ (∀ c ∈ pmersOf p x, permScore perm rcMode best ≤ permScore perm rcMode c) ∧
      bucketOf perm rcMode p x = rank (minRc best) % 2 ^ 32 := by
  rw [pmersOf_eq p x]
  unfold bucketOf
  rw [pmersOf_eq p x]
  obtain ⟨a, b⟩ := firstMin_spec (permScore perm rcMode) ((List.range (x.length - p)).map fun j => (x.drop (j + 1)).take p) (x.take p)
  exact ⟨_, a, b, rfl⟩

/-- the clauses of `IvValid` about the minimizer, without subtractions -/
theorem IvValid.minimizer {seq : Array Base} {sc : Nat → Nat} {k p : Nat} {iv : Iv} (hv : IvValid seq sc k p iv) :
    iv.start + iv.len ≤ iv.mpos + k ∧ iv.mpos + p ≤ iv.start + k ∧
      ∀ q, iv.start ≤ q → q + p ≤ iv.start + iv.len → sc iv.mpos ≤ sc q := by
  obtain ⟨_, _, _, h4, h5, h6⟩ := hv
  exact ⟨Nat.le_add_of_sub_le h4, h5, fun q hq1 hq2 => h6 q (by omega) hq1⟩

/-- **Bucket purity for one interval.** If an interval satisfies the C07 clauses, the bucket computed from its minimizer
    is the reference bucket of every k-mer `[a, a+k)` inside the interval: the minimizer is one of the p-mers of that k-mer,
    and every p-mer of the k-mer is a p-mer of the interval, so none scores less. -/
theorem bucket_of_interval (perm : Array Nat) (rcMode : Bool) (k p : Nat) (seq : Array Base) (iv : Iv)
    (hpk : p ≤ k) (hsz : perm.size = 4 ^ p) (hinj : PermInj perm)
    (hv : IvValid seq (fun q => permScore perm rcMode (window seq p q)) k p iv) (hend : iv.start + iv.len ≤ seq.size)
    (a : Nat) (ha : iv.start ≤ a) (hak : a + k ≤ iv.start + iv.len) :
    rank (minRc iv.mini) % 2 ^ 32 = bucketOf perm rcMode p (window seq k a) := by
  have hm : iv.mini = window seq p iv.mpos := hv.2.2.1
  obtain ⟨h4, h5, h6⟩ := hv.minimizer
  have hle : a + k ≤ seq.size := Nat.le_trans hak hend
  have hmem := mem_pmersOf_window seq k p a hpk hle
  obtain ⟨best, hb1, hb2, hb3⟩ := bucketOf_best perm rcMode p (window seq k a)
  obtain ⟨i, hi, rfl⟩ := (hmem _).mp hb1
  have hai : a + i + p ≤ a + k := by rw [Nat.add_assoc]; exact Nat.add_le_add_left hi a
  have hma : a ≤ iv.mpos := Nat.le_of_add_le_add_right (Nat.le_trans hak h4)
  have hmk : iv.mpos + p ≤ a + k := Nat.le_trans h5 (Nat.add_le_add_right ha k)
  have hge := hb2 iv.mini ((hmem _).mpr ⟨iv.mpos - a, by omega, by rw [Nat.add_sub_of_le hma]; exact hm⟩)
  rw [hm] at hge ⊢
  rw [hb3, score_class perm rcMode p hsz hinj _ _ (window_length seq p _ (Nat.le_trans hmk hle))
    (window_length seq p _ (Nat.le_trans hai hle))
    (Nat.le_antisymm (h6 (a + i) (Nat.le_trans ha (Nat.le_add_right a i)) (Nat.le_trans hai hak)) hge)]

theorem rc_mem_pmersOf (p : Nat) (x w : Seq) (hp : p ≤ x.length) (h : w ∈ pmersOf p x) : rc w ∈ pmersOf p (rc x) := by
  obtain ⟨j, hj, rfl⟩ := (mem_pmersOf p x hp w).mp h
  rw [mem_pmersOf p _ (by rw [Compress.rc_length]; exact hp), Compress.rc_length]
  obtain ⟨c, hc⟩ := Nat.exists_eq_add_of_le hj
  exact ⟨c, by omega, (Filter.win_rc_of_add x p j c (by omega)).symm⟩

theorem permScore_rc (perm : Array Nat) (w : Seq) : permScore perm true (rc w) = permScore perm true w := by
  unfold permScore
  simp only [if_true, Compress.rc_rc]
  exact Nat.min_comm _ _

theorem permScore_lt (perm : Array Nat) (rcMode : Bool) (h : ∀ i : Nat, i < perm.size → perm[i]?.getD 0 < 2 ^ 64) (w : Seq) :
    permScore perm rcMode w < 2 ^ 64 := by
  have key : ∀ i : Nat, perm[i]?.getD 0 < 2 ^ 64 := fun i => by
    by_cases hi : i < perm.size
    · exact h i hi
    · rw [Array.getElem?_eq_none (Nat.le_of_not_lt hi)]; decide
  unfold permScore
  cases rcMode
  · exact key _
  · exact Nat.lt_of_le_of_lt (Nat.min_le_left _ _) (key _)

theorem pmersOf_length (p : Nat) (y : Seq) (hy : p ≤ y.length) (b : Seq) (hb : b ∈ pmersOf p y) : b.length = p := by
  obtain ⟨j, hj, rfl⟩ := (mem_pmersOf p y hy b).mp hb
  exact Filter.win_length y p j hj

theorem bucketOf_rc (perm : Array Nat) (p : Nat) (hsz : perm.size = 4 ^ p) (hinj : PermInj perm) (x : Seq) (hp : p ≤ x.length) :
    bucketOf perm true p (rc x) = bucketOf perm true p x := by
  obtain ⟨b1, m1, l1, e1⟩ := bucketOf_best perm true p x
  obtain ⟨b2, m2, l2, e2⟩ := bucketOf_best perm true p (rc x)
  have hp' : p ≤ (rc x).length := by rw [Compress.rc_length]; exact hp
  -- the reverse complement of either best p-mer is a p-mer of the other sequence, with the same score
  have h12 := l2 (rc b1) (rc_mem_pmersOf p x b1 hp m1)
  have h21 := l1 (rc b2) (Compress.rc_rc x ▸ rc_mem_pmersOf p (rc x) b2 hp' m2)
  rw [permScore_rc] at h12 h21
  rw [e1, e2, score_class perm true p hsz hinj b2 b1 (pmersOf_length p _ hp' b2 m2) (pmersOf_length p x hp b1 m1)
    (Nat.le_antisymm h12 h21)]

end Msp
