import Dbg.Lemmas.IsCompressed
import Dbg.Lemmas.Idempotent
/-! The result of `compress_graph` (no censoring, constantly-true join) passes the crate's own `is_compressed` check — the
    `debug_assert!` at the end of `compress_graph` cannot fire. -/
namespace Compress
open Walk (Dir Conn)
open Filter (ExtSym2 removeCensoredExts)
open Graph (G isCompressed)
open CompressGraph (compressGraph)
variable {D : Type}

theorem compressGraph_x8 (st : Bool) (g : G D) (join : D → D → Bool) (reduce : D → D → D) (censor : List Nat)
    (g' : G D) (paths : List (List (Nat × Dir))) (h : compressGraph st g join reduce censor = some (g', paths)) :
    ∀ (i : Nat) (n : Node D), g'.nodes[i]? = some n → n.exts.val < 256 := by
  obtain ⟨nodes, _, hg', _⟩ := CompressGraph.compressGraph_some st g join reduce censor g' paths h
  intro i n hn
  rw [hg'] at hn
  exact CompressGraph.fixExts_x8 _ none i n hn

theorem pgraph_recompress_isCompressed {U : Table D} {K : Nat} {st : Bool} {join0 : D → D → Bool} {nodes : List (Node D)}
    {port : Nat → Dir → Nat × Dir} {members : Nat → List Nat} {lk : Walk.Link}
    (pg : PGraph U K st join0 nodes port members lk) (wf : WF U K st) (hes2 : ExtSym2 U st) (reduce : D → D → D) :
    ∃ g' paths, compressGraph st (⟨K, nodes, st⟩ : G D) (fun _ _ => true) reduce [] = some (g', paths) ∧
      isCompressed g' (fun _ _ => true) = none := by
  obtain ⟨g', paths, port', mem', hcg, hK', hst', pg3, _, _, hsame⟩ := recompress_ported pg wf hes2 reduce
  have wf1 := Filter.wf_removeCensored st U K wf
  have hes1 := Filter.extSym2_removeCensored st U K wf hes2
  refine ⟨g', paths, hcg, ?_⟩
  rw [graph_eta g' K st hK' hst']
  apply pg3.isCompressed_none (Filter.wf_removeCensored st _ K wf1) (Filter.extSym2_removeCensored st _ K wf1 hes1)
    (closed_pruned st (removeCensoredExts st U)) (compressGraph_x8 st _ _ reduce [] g' paths hcg)
  intro X Y d o hX hY hl
  -- the two end ports are joined by a good link of the twice-pruned table, which has the content of the once-pruned one
  have hk := conn_kconn _ st _ _ _ (Conn.step (Conn.refl (port' X d).1) ⟨_, _, hl⟩)
  simp only [keyOf_pruned] at hk
  exact (hsame X Y hX hY _ (pg3.portMem X d hX) _ (pg3.portMem Y o hY)).mpr
    ((kconn_prune_closed wf1 (closed_pruned st U) _ _ _).mp hk)

theorem sharded_result_isCompressed {R : Table D} {K : Nat} {st : Bool} (wfR : WF R K st) (hesR : ExtSym2 R st)
    (Ts : List (Table D)) (sw : Sandwich st Ts.flatten R) (reduce : D → D → D)
    (join0 : D → D → Bool) (hj0 : ∀ a b, join0 a b = join0 b a) :
    ∃ outs g' paths, AllBuilt st join0 reduce Ts outs ∧
      compressGraph st (⟨K, (outs.map fun o => o.map (·.1)).flatten, st⟩ : G D) (fun _ _ => true) reduce [] = some (g', paths) ∧
      isCompressed g' (fun _ _ => true) = none := by
  obtain ⟨wfU, hesU, outs, port, mem, lk, hb, pg⟩ := sharded_combined wfR hesR Ts sw reduce join0 hj0
  obtain ⟨g', paths, hcg, hic⟩ := pgraph_recompress_isCompressed pg wfU hesU reduce
  exact ⟨outs, g', paths, hb, hcg, hic⟩

end Compress
