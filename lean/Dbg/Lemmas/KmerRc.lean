import Dbg.Lemmas.KmerLadders
import Dbg.Lemmas.KmerBits
/-! Reverse complement of the packed k-mer model refines `KSpec.rc`. -/
namespace Kmer
variable {c : Cfg}

theorem even_of_ladder {w : Nat} (hw : w ∈ [8, 16, 32, 64, 128]) : w % 2 = 0 := by
  simp only [List.mem_cons, List.mem_nil_iff, or_false] at hw
  rcases hw with rfl | rfl | rfl | rfl | rfl <;> rfl

theorem revTwos_lane (w : Nat) (hw : w ∈ [8, 16, 32, 64, 128]) (x : BitVec w) (j b : Nat) (hj : 2 * j + 2 ≤ w) (hb : b < 2) :
    (revTwos x).getLsbD (2 * j + b) = x.getLsbD (2 * (w / 2 - 1 - j) + b) := by
  rw [revTwos_spec w hw x _ (by omega), show (2 * j + b) / 2 = j by omega, show (2 * j + b) % 2 = b by omega]

/-- both variants complement the reversed word and shift the unused lanes out at the bottom; a type that uses
    all lanes has none to shift out -/
theorem rc_eq (hc : c.WF) (hev : c.w % 2 = 0) (s : St c) : rc c s = ~~~(revTwos s) >>> (2 * (c.w / 2 - c.K)) := by
  unfold rc
  split
  · rfl
  next h =>
    have hw := hc.hw
    have : c.w / 2 - c.K = 0 := by
      cases hv : c.var
      · have := hc.hint hv; omega
      · simp [hv] at h; omega
    rw [this]; rfl

section
variable (hc : c.WF) (hw : c.w ∈ [8, 16, 32, 64, 128]) (s : St c)
include hc hw

theorem rc_bits (q b : Nat) (hq : q < c.K) (hb : b < 2) :
    (rc c s).getLsbD (addr c q + b) = !s.getLsbD (addr c (c.K - 1 - q) + b) := by
  have hev := even_of_ladder hw
  have hwk := hc.hw
  have ha := addr_add q hq
  have ha' := addr_add (c := c) (c.K - 1 - q) (by omega)
  rw [rc_eq hc hev, BitVec.getLsbD_ushiftRight,
    show 2 * (c.w / 2 - c.K) + (addr c q + b) = 2 * (c.w / 2 - 1 - q) + b by omega, BitVec.getLsbD_not,
    revTwos_lane c.w hw s _ b (by omega) hb, show 2 * (c.w / 2 - 1 - (c.w / 2 - 1 - q)) = addr c (c.K - 1 - q) by omega]
  simp [show 2 * (c.w / 2 - 1 - q) + b < c.w by omega]

theorem inv_rc : Inv c (rc c s) := by
  have hev := even_of_ladder hw
  intro i hi
  rw [rc_eq hc hev, BitVec.getLsbD_ushiftRight]
  exact BitVec.getLsbD_of_ge _ _ (by omega)

theorem get_rc (q : Nat) (hq : q < c.K) :
    get c (rc c s) q = 3 - get c s (c.K - 1 - q) := by
  rw [get_bits hc, get_bits hc, rc_bits hc hw s q 1 hq (by decide), show addr c q = addr c q + 0 from rfl,
    rc_bits hc hw s q 0 hq (by decide)]
  cases s.getLsbD (addr c (c.K - 1 - q) + 1) <;> cases s.getLsbD (addr c (c.K - 1 - q) + 0) <;> rfl

theorem toSeq_rc :
    toSeq c (rc c s) = KSpec.rc (toSeq c s) := by
  apply toSeq_eq _ _ (by simp [KSpec.rc, toSeq_length])
  intro q hq
  rw [get_rc hc hw s q hq]
  simp [KSpec.rc, KSpec.comp, toSeq]

end

end Kmer
