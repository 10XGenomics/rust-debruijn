import Dbg.Model.Avx2
import Dbg.Lemmas.DnaRefine
/-! The AVX2 kernels, lane by lane: `convert_bases` is the scalar table on every lane and
    `pack_32_bases` packs the low two bits of byte `i` into bits `63-2i, 62-2i`. -/
namespace Avx2

theorem getD_map_range (f : Nat → Nat) (n c d : Nat) :
    ((List.range n).map f).getD c d = if c < n then f c else d := by
  rw [List.getD_eq_getElem?_getD, List.getElem?_map]
  split
  · next h => rw [List.getElem?_range h]; rfl
  · next h => rw [List.getElem?_eq_none (by rw [List.length_range]; omega)]; rfl

theorem byte_map_range (f : Nat → Nat) (i : Nat) (hi : i < 32) : byte ((List.range 32).map f) i = f i := by
  unfold byte
  rw [getD_map_range, if_pos hi]

theorem byte_replicate (x i : Nat) (hi : i < 32) : byte (List.replicate 32 x) i = x := by
  unfold byte
  rw [List.getD_eq_getElem?_getD, List.getElem?_replicate]; simp [hi]

theorem all_congr_mem {α} (l : List α) (p q : α → Bool) (h : ∀ a ∈ l, p a = q a) : l.all p = l.all q := by
  induction l with
  | nil => rfl
  | cons a t ih => simp only [List.all_cons]; rw [h a (by simp), ih (fun x hx => h x (by simp [hx]))]

def IsVec (v : V) : Prop := v.length = 32 ∧ ∀ b ∈ v, b < 256

theorem byte_lt (v : V) (hv : IsVec v) (i : Nat) : byte v i < 256 := by
  unfold byte
  rw [List.getD_eq_getElem?_getD]
  by_cases hi : i < v.length
  · rw [List.getElem?_eq_getElem hi]; exact hv.2 _ (List.getElem_mem _)
  · rw [List.getElem?_eq_none (by omega)]; decide

/-- one lane of `convert_bases`, as a function of the lane index and the byte in that lane -/
def laneConv (i c : Nat) : Nat × Nat :=
  let hi := (c >>> Gen.avxHiShift) &&& Gen.avxLoMask
  let hiLookup := if hi &&& 0x80 ≠ 0 then 0 else byte hiLut ((i / 16) * 16 + (hi &&& 0x0F))
  let loLookup := if c &&& 0x80 ≠ 0 then 0 else byte Gen.avxLoLut ((i / 16) * 16 + (c &&& 0x0F))
  let maskb := if (loLookup &&& hiLookup) = 0 then 255 else 0
  let shuffled := if c &&& 0x80 ≠ 0 then 0 else byte Gen.avxLut ((i / 16) * 16 + (c &&& 0x0F))
  ((255 - maskb) &&& shuffled, maskb)

def isValidByte (c : Nat) : Bool := Gen.isValidBase.getD c 0 == 1

/-! Each 256-entry table regenerated from the `match` arms of lib.rs is compared once, as a list, with the
function it tabulates; the per-byte facts are then facts about those functions. -/

theorem baseToBits_table : Gen.baseToBits = (List.range 256).map KSpec.asciiToBase := by decide +kernel

theorem isValidBase_table : Gen.isValidBase =
    (List.range 256).map fun c => if c ∈ [65, 67, 71, 84, 97, 99, 103, 116] then 1 else 0 := by decide +kernel

/-- the strict table is `base_to_bits` on the valid bytes and `None` (255) elsewhere -/
theorem dnaOnly_zip : Gen.dnaOnlyBaseToBits =
    List.zipWith (fun v b => if v = 1 then b else 255) Gen.isValidBase Gen.baseToBits := by decide +kernel

theorem dnaOnly_table : Gen.dnaOnlyBaseToBits =
    (List.range 256).map fun c => if c ∈ [65, 67, 71, 84, 97, 99, 103, 116] then KSpec.asciiToBase c else 255 := by
  rw [dnaOnly_zip, isValidBase_table, baseToBits_table, List.zipWith_map, List.zipWith_self]
  apply List.map_congr_left
  intro c _
  split <;> simp [*]

/-- the inline match of the hashed-N constructor is the strict table -/
theorem hashnArms_eq : Gen.hashnArms = Gen.dnaOnlyBaseToBits := by decide +kernel

theorem asciiToBase_lt (c : Nat) : KSpec.asciiToBase c < 4 := by
  unfold KSpec.asciiToBase
  repeat' split
  all_goals decide

theorem baseToBits_eq (c : Nat) : baseToBits c = if c < 256 then KSpec.asciiToBase c else 0 := by
  unfold baseToBits
  rw [baseToBits_table, getD_map_range]

theorem baseToBits_lt (c : Nat) : baseToBits c < 4 := by
  rw [baseToBits_eq]
  split
  · exact asciiToBase_lt c
  · decide

theorem map_baseToBits_lt (l : List Nat) : ∀ b ∈ l.map baseToBits, b < 4 := by
  intro b hb
  obtain ⟨c, _, rfl⟩ := List.mem_map.mp hb
  exact baseToBits_lt c

theorem isValidByte_eq (c : Nat) (hc : c < 256) :
    isValidByte c = decide (c ∈ [65, 67, 71, 84, 97, 99, 103, 116]) := by
  unfold isValidByte
  rw [isValidBase_table, getD_map_range, if_pos hc]
  split <;> simp [*]

theorem ofWords16_lt (f : Nat → Nat) (i : Nat) (hi : i < 32) : byte (ofWords16 f) i < 256 := by
  unfold ofWords16
  rw [byte_map_range _ i hi]
  dsimp only
  split <;> omega

theorem testBit_ofWords16 (f : Nat → Nat) (i j : Nat) (hi : i < 32) (hj : j < 8) :
    (byte (ofWords16 f) i).testBit j = (f (i / 2)).testBit (8 * (i % 2) + j) := by
  unfold ofWords16
  rw [byte_map_range _ i hi]
  dsimp only
  rw [show (65536 : Nat) = 2 ^ 16 from rfl, show (256 : Nat) = 2 ^ 8 from rfl]
  rcases Nat.mod_two_eq_zero_or_one i with h | h
  · rw [if_pos h, h, Nat.testBit_mod_two_pow, Nat.testBit_mod_two_pow, decide_eq_true hj,
      decide_eq_true (show j < 16 by omega), Bool.true_and, Bool.true_and, Nat.mul_zero, Nat.zero_add]
  · rw [if_neg (by omega), h, Nat.testBit_div_two_pow, Nat.testBit_mod_two_pow,
      decide_eq_true (show j + 8 < 16 by omega), Bool.true_and, Nat.mul_one, Nat.add_comm]

section
variable (a : V) (ha : ∀ j, j < 32 → byte a j < 256)
include ha

theorem testBit_word16 (i q : Nat) (hi : i < 32) (hq : q < 8) :
    (word16 a (i / 2)).testBit (8 * (i % 2) + q) = (byte a i).testBit q := by
  unfold word16
  rw [Nat.add_comm, show (256 : Nat) = 2 ^ 8 from rfl, Nat.testBit_two_pow_mul_add _ (ha _ (by omega))]
  rcases Nat.mod_two_eq_zero_or_one i with h | h
  · rw [h, if_pos (by omega), show 2 * (i / 2) = i by omega, Nat.mul_zero, Nat.zero_add]
  · rw [h, if_neg (by omega), show 2 * (i / 2) + 1 = i by omega, Nat.mul_one, Nat.add_sub_cancel_left]

theorem testBit_slli (n i j : Nat) (hi : i < 32) (hj : j < 8) (hn : n ≤ j) :
    (byte (slliEpi16 a n) i).testBit j = (byte a i).testBit (j - n) := by
  unfold slliEpi16
  rw [testBit_ofWords16 _ i j hi hj, show (65536 : Nat) = 2 ^ 16 from rfl, Nat.testBit_mod_two_pow, Nat.testBit_shiftLeft,
    decide_eq_true (show 8 * (i % 2) + j < 16 by omega), decide_eq_true (Nat.le_trans hn (Nat.le_add_left _ _)),
    Bool.true_and, Bool.true_and, Nat.add_sub_assoc hn, testBit_word16 a ha i _ hi (Nat.lt_of_le_of_lt (Nat.sub_le _ _) hj)]

theorem testBit_srli (n i j : Nat) (hi : i < 32) (hj : j + n < 8) :
    (byte (srliEpi16 a n) i).testBit j = (byte a i).testBit (j + n) := by
  unfold srliEpi16
  rw [testBit_ofWords16 _ i j hi (by omega), Nat.testBit_shiftRight,
    show n + (8 * (i % 2) + j) = 8 * (i % 2) + (j + n) by omega, testBit_word16 a ha i _ hi hj]

/-- the bit that `movemask` reads after a left shift by `n` -/
theorem slli_msb (n i : Nat) (hi : i < 32) (hn : n ≤ 7) :
    byte (slliEpi16 a n) i / 128 = ((byte a i).testBit (7 - n)).toNat := by
  have hb : byte (slliEpi16 a n) i < 256 := ofWords16_lt _ i hi
  rw [← testBit_slli a ha n i 7 hi (by omega) hn, Nat.toNat_testBit]
  omega

/-- the two shifted copies put bit 0 and bit 1 of every byte where `movemask` reads -/
theorem slli_two_bits (i : Nat) (hi : i < 32) :
    byte (slliEpi16 a 7) i / 128 + 2 * (byte (slliEpi16 a 6) i / 128) = byte a i % 4 := by
  rw [slli_msb a ha 7 i hi (by decide), slli_msb a ha 6 i hi (by decide), Nat.toNat_testBit, Nat.toNat_testBit]
  show byte a i / 1 % 2 + 2 * (byte a i / 2 % 2) = _
  rw [Nat.div_one]
  exact (Nat.mod_mul (a := 2) (b := 2)).symm

end

/-- the 16-bit logical right shift by 3, masked to four bits, is the per-byte `(c >> 3) & 15` -/
theorem srli3_lane (input : V) (hv : IsVec input) (i : Nat) (hi : i < 32) :
    byte (andSi256 (srliEpi16 input 3) (set1Epi8 15)) i = (byte input i >>> 3) &&& 15 := by
  unfold andSi256 set1Epi8
  rw [byte_map_range _ i hi, byte_replicate 15 i hi]
  apply Nat.eq_of_testBit_eq
  intro j
  rw [Nat.testBit_and, Nat.testBit_and, Nat.testBit_shiftRight, show (15 : Nat) = 2 ^ 4 - 1 from rfl, Nat.testBit_two_pow_sub_one]
  by_cases hj : j < 4
  · rw [testBit_srli input (fun j _ => byte_lt input hv j) 3 i j hi (by omega), Nat.add_comm]
  · rw [decide_eq_false hj, Bool.and_false, Bool.and_false]

theorem lut_halves : ∀ k : Fin 16, byte hiLut (16 + k.val) = byte hiLut k.val ∧
    byte Gen.avxLoLut (16 + k.val) = byte Gen.avxLoLut k.val ∧ byte Gen.avxLut (16 + k.val) = byte Gen.avxLut k.val := by
  decide +kernel

/-- the lookup tables repeat in both 128-bit halves, so a lane of `convert_bases` computes the same function of its
    byte wherever it sits -/
theorem laneConv_lane (i c : Nat) (hi : i < 32) : laneConv i c = laneConv 0 c := by
  have h16 : ∀ x : Nat, x &&& 0x0F < 16 := fun x => Nat.lt_succ_of_le Nat.and_le_right
  have hhalf : i / 16 = 0 ∨ i / 16 = 1 := by omega
  rcases hhalf with h | h
  · unfold laneConv; rw [h]
  · unfold laneConv
    simp only [h, Nat.one_mul, Nat.zero_div, Nat.zero_mul, Nat.zero_add]
    rw [(lut_halves ⟨_, h16 _⟩).1, (lut_halves ⟨_, h16 c⟩).2.1, (lut_halves ⟨_, h16 c⟩).2.2]

/-- that function, tabulated over the byte values, is the pair of the scalar tables: `base_to_bits`, and a mask byte
    clear exactly on the valid bytes -/
theorem laneConv_zero : (List.range 256).map (laneConv 0) =
    List.zipWith (fun b v => (b, if v = 1 then 0 else 255)) Gen.baseToBits Gen.isValidBase := by decide +kernel

theorem laneConv_eq (i c : Nat) (hi : i < 32) (hc : c < 256) :
    laneConv i c = (baseToBits c, if isValidByte c then 0 else 255) := by
  have h := laneConv_zero
  rw [baseToBits_table, isValidBase_table, List.zipWith_map, List.zipWith_self, List.map_inj_left] at h
  rw [laneConv_lane i c hi, h c (List.mem_range.mpr hc), baseToBits_eq, if_pos hc, isValidByte_eq c hc]
  split <;> simp [*]

/-- **lane table**: on every lane and for every byte value, the vector kernel computes the scalar
    `base_to_bits` and flags exactly the non-ACGT bytes -/
theorem lane_table : ∀ i : Fin 32, ∀ c : Fin 256,
    laneConv i.val c.val = (baseToBits c.val, if isValidByte c.val then 0 else 255) :=
  fun i c => laneConv_eq i.val c.val i.isLt c.isLt

theorem map_byte_range (v : V) (hl : v.length = 32) : (List.range 32).map (byte v) = v := by
  apply List.ext_getElem
  · rw [List.length_map, List.length_range, hl]
  · intro i _ h
    rw [List.getElem_map, List.getElem_range]
    unfold byte
    rw [List.getD_eq_getElem?_getD, List.getElem?_eq_getElem h]; rfl

theorem convert_lane (input : V) (hv : IsVec input) (i : Nat) (hi : i < 32) :
    let mask := cmpeqEpi8 (andSi256 (shuffleEpi8 Gen.avxLoLut input)
      (shuffleEpi8 hiLut (andSi256 (srliEpi16 input Gen.avxHiShift) (set1Epi8 Gen.avxLoMask)))) zero
    byte mask i = (if isValidByte (byte input i) then 0 else 255) ∧
      (255 - byte mask i) &&& byte (shuffleEpi8 Gen.avxLut input) i = baseToBits (byte input i) := by
  intro mask
  have hm : byte mask i = (laneConv i (byte input i)).2 := by
    have hh : byte (andSi256 (srliEpi16 input Gen.avxHiShift) (set1Epi8 Gen.avxLoMask)) i = (byte input i >>> 3) &&& 15 :=
      srli3_lane input hv i hi
    show byte (cmpeqEpi8 _ _) i = _
    generalize andSi256 (srliEpi16 input Gen.avxHiShift) (set1Epi8 Gen.avxLoMask) = H at hh ⊢
    unfold cmpeqEpi8 zero andSi256 shuffleEpi8
    rw [byte_map_range _ i hi, byte_replicate 0 i hi, byte_map_range _ i hi, byte_map_range _ i hi, byte_map_range _ i hi]
    simp only [hh]
    rfl
  have hl := laneConv_eq i (byte input i) hi (byte_lt input hv i)
  constructor
  · rw [hm, hl]
  · rw [hm]
    unfold shuffleEpi8
    rw [byte_map_range _ i hi]
    exact congrArg Prod.fst hl

/-- **`convert_bases`** on 32 arbitrary bytes = the scalar table on every lane; the flag says "all ACGT" -/
theorem convert_spec (input : V) (hv : IsVec input) :
    (convertBases input).1 = input.map baseToBits ∧ (convertBases input).2 = input.all isValidByte := by
  unfold convertBases
  simp only
  constructor
  · unfold andnotSi256
    conv => rhs; rw [← map_byte_range input hv.1, List.map_map]
    apply List.map_congr_left
    intro i hi
    exact (convert_lane input hv i (List.mem_range.mp hi)).2
  · unfold testcSi256 andnotSi256
    conv => rhs; rw [← map_byte_range input hv.1]
    rw [List.all_map, List.all_map]
    apply all_congr_mem
    intro i hi
    have hi := List.mem_range.mp hi
    simp only [Function.comp]
    rw [show byte zero i = 0 from byte_replicate 0 i hi, (convert_lane input hv i hi).1]
    cases isValidByte (byte input i) <;> rfl

def sumTo (n : Nat) (g : Nat → Nat) : Nat := (List.range n).foldl (fun acc i => acc + g i) 0

theorem foldl_add_shift (l : List Nat) (g : Nat → Nat) (s : Nat) :
    l.foldl (fun acc i => acc + g i) s = s + l.foldl (fun acc i => acc + g i) 0 := by
  induction l generalizing s with
  | nil => simp
  | cons a t ih => simp only [List.foldl_cons]; rw [ih (s + g a), ih (0 + g a)]; omega

theorem sumTo_succ (n : Nat) (g : Nat → Nat) : sumTo (n + 1) g = sumTo n g + g n := by
  unfold sumTo; rw [List.range_succ, List.foldl_append]; rfl

theorem sumTo_congr (n : Nat) (g h : Nat → Nat) (e : ∀ i, i < n → g i = h i) : sumTo n g = sumTo n h := by
  induction n with
  | zero => rfl
  | succ n ih => rw [sumTo_succ, sumTo_succ, ih (fun i hi => e i (by omega)), e n (by omega)]

theorem sumTo_pairs (n : Nat) (f : Nat → Nat) :
    sumTo (2 * n) (fun i => f i * 2 ^ i) = sumTo n (fun m => (f (2 * m) + 2 * f (2 * m + 1)) * 4 ^ m) := by
  induction n with
  | zero => rfl
  | succ n ih =>
    rw [show 2 * (n + 1) = 2 * n + 1 + 1 by omega, sumTo_succ, sumTo_succ, sumTo_succ, ih, Nat.add_assoc,
      show (4 : Nat) ^ n = 2 ^ (2 * n) by rw [Nat.pow_mul], Nat.pow_succ, Nat.add_mul]
    congr 2
    ac_rfl

theorem sumTo_split (a b : Nat) (g : Nat → Nat) : sumTo (a + b) g = sumTo a g + sumTo b (fun m => g (a + m)) := by
  induction b with
  | zero => simp [sumTo]
  | succ b ih => rw [← Nat.add_assoc, sumTo_succ, sumTo_succ, ih]; omega

theorem sumTo_mul (n c : Nat) (g : Nat → Nat) : sumTo n (fun m => g m * c) = sumTo n g * c := by
  induction n with
  | zero => simp [sumTo]
  | succ n ih => rw [sumTo_succ, sumTo_succ, ih, Nat.add_mul]

theorem digits_lt (n : Nat) (d : Nat → Nat) (hd : ∀ m, d m < 4) : sumTo n (fun m => d m * 4 ^ m) < 4 ^ n := by
  induction n with
  | zero => simp [sumTo]
  | succ n ih =>
    rw [sumTo_succ, Nat.pow_succ]
    have := hd n
    have h1 : d n * 4 ^ n ≤ 3 * 4 ^ n := Nat.mul_le_mul_right _ (by omega)
    omega

theorem digit_extract (n : Nat) (d : Nat → Nat) (hd : ∀ m, d m < 4) (k : Nat) (hk : k < n) :
    (sumTo n (fun m => d m * 4 ^ m) / 4 ^ k) % 4 = d k := by
  induction n with
  | zero => omega
  | succ n ih =>
    rw [sumTo_succ]
    by_cases hkn : k < n
    · obtain ⟨j, rfl⟩ : ∃ j, n = k + 1 + j := ⟨n - k - 1, by omega⟩
      rw [show d (k + 1 + j) * 4 ^ (k + 1 + j) = 4 ^ k * (4 * (d (k + 1 + j) * 4 ^ j)) by
          rw [Nat.pow_add, Nat.pow_succ]; ac_rfl,
        Nat.add_mul_div_left _ _ (Nat.pow_pos (by decide)), Nat.add_mul_mod_self_left]
      exact ih hkn
    · have : k = n := by omega
      subst this
      have hlt := digits_lt k d hd
      rw [Nat.add_mul_div_right _ _ (Nat.pow_pos (by decide)), Nat.div_eq_of_lt hlt, Nat.zero_add]
      exact Nat.mod_eq_of_lt (hd k)

theorem movemask_sum (a : V) : movemaskEpi8 a = sumTo 32 (fun i => (byte a i / 128) * 2 ^ i) := rfl

/-- control bytes of the reverse mask (table regenerated from the source) -/
theorem reverseMask_table : ∀ i : Fin 32,
    byte Gen.avxReverseMask i.val &&& 0x80 = 0 ∧ byte Gen.avxReverseMask i.val &&& 0x0F = 15 - i.val % 16 := by decide

/-- where byte `i` of `permuted` comes from -/
def rho (i : Nat) : Nat :=
  let idx := ((Gen.avxPermuteImm >>> (2 * (i / 8))) &&& 3) * 8 + i % 8
  (idx / 16) * 16 + (15 - idx % 16)

theorem permuted_lane (bases : V) (i : Nat) (hi : i < 32) :
    byte (permute4x64 (shuffleEpi8 bases Gen.avxReverseMask) Gen.avxPermuteImm) i = byte bases (rho i) := by
  unfold permute4x64
  rw [byte_map_range _ i hi]
  simp only
  have hidx : ((Gen.avxPermuteImm >>> (2 * (i / 8))) &&& 3) * 8 + i % 8 < 32 := by
    have : (Gen.avxPermuteImm >>> (2 * (i / 8))) &&& 3 ≤ 3 := Nat.and_le_right
    omega
  unfold shuffleEpi8
  rw [byte_map_range _ _ hidx]
  simp only
  obtain ⟨t1, t2⟩ := reverseMask_table ⟨_, hidx⟩
  simp only at t1 t2
  rw [if_neg (by rw [t1]; simp), t2]
  rfl

/-- the packed lanes read the bases in reverse: the low half takes bytes 31..16, the high half 15..0 -/
theorem rho_table : ∀ m : Fin 16, rho ((m.val / 8) * 16 + m.val % 8) = 31 - m.val ∧ rho ((m.val / 8) * 16 + 8 + m.val % 8) = 15 - m.val := by
  decide

/-- where the interleaves read: bytes `2m` and `2m + 1` of a 128-bit half come from byte `m` of that half -/
theorem unpack_idx : ∀ m : Fin 16, (2 * m.val) / 16 = m.val / 8 ∧ (2 * m.val) % 16 % 2 = 0 ∧ (2 * m.val) % 16 / 2 = m.val % 8 ∧
    (2 * m.val + 1) / 16 = m.val / 8 ∧ (2 * m.val + 1) % 16 % 2 = 1 ∧ (2 * m.val + 1) % 16 / 2 = m.val % 8 := by decide

/-- `unpacklo` (`off = 0`) and `unpackhi` (`off = 8`): bytes `2m`, `2m + 1` of the result are byte `m` of the chosen
    64-bit halves of `a` and of `b` -/
theorem interleave_lane (a b : V) (off m : Nat) (hm : m < 16) :
    let u : V := (List.range 32).map fun i =>
      if i % 16 % 2 = 0 then byte a (i / 16 * 16 + off + i % 16 / 2) else byte b (i / 16 * 16 + off + i % 16 / 2)
    byte u (2 * m) = byte a (m / 8 * 16 + off + m % 8) ∧ byte u (2 * m + 1) = byte b (m / 8 * 16 + off + m % 8) := by
  obtain ⟨e1, e2, e3, e4, e5, e6⟩ := unpack_idx ⟨m, hm⟩
  intro u
  rw [byte_map_range _ _ (by omega), byte_map_range _ _ (by omega)]
  dsimp only at e1 e2 e3 e4 e5 e6 ⊢
  rw [e1, e2, e3, e4, e5, e6, if_pos rfl, if_neg (by decide)]
  exact ⟨rfl, rfl⟩

/-- `movemask` of an interleaving of the two shifted copies: 16 two-bit fields, field `m` read from byte `g m` -/
theorem movemask_interleave (a u : V) (ha : ∀ j, j < 32 → byte a j < 256) (g d : Nat → Nat)
    (hg : ∀ m, m < 16 → g m < 32 ∧ byte a (g m) = d m)
    (hu : ∀ m, m < 16 → byte u (2 * m) = byte (slliEpi16 a 7) (g m) ∧ byte u (2 * m + 1) = byte (slliEpi16 a 6) (g m)) :
    movemaskEpi8 u = sumTo 16 (fun m => (d m % 4) * 4 ^ m) := by
  rw [movemask_sum, show (32 : Nat) = 2 * 16 from rfl, sumTo_pairs]
  apply sumTo_congr
  intro m hm
  rw [(hu m hm).1, (hu m hm).2, slli_two_bits a ha _ (hg m hm).1, (hg m hm).2]

/-- **`pack_32_bases`**: the low two bits of byte `i` land in bits `63-2i, 62-2i` -/
theorem pack_sum (bases : V) (hv : IsVec bases) :
    pack32Bases bases = sumTo 32 (fun m => (byte bases (31 - m) % 4) * 4 ^ m) := by
  have hp : ∀ j, j < 32 → byte (permute4x64 (shuffleEpi8 bases Gen.avxReverseMask) Gen.avxPermuteImm) j < 256 :=
    fun j hj => by rw [permuted_lane bases j hj]; exact byte_lt bases hv _
  -- `unpacklo` packs bytes 31..16, `unpackhi` bytes 15..0
  have hlo := movemask_interleave _ (unpackloEpi8 _ _) hp _ (fun m => byte bases (31 - m))
    (fun m hm => ⟨by omega, by rw [permuted_lane bases _ (by omega)]; exact congrArg _ (rho_table ⟨m, hm⟩).1⟩)
    (fun m hm => interleave_lane _ _ 0 m hm)
  have hhi := movemask_interleave _ (unpackhiEpi8 _ _) hp _ (fun m => byte bases (15 - m))
    (fun m hm => ⟨by omega, by rw [permuted_lane bases _ (by omega)]; exact congrArg _ (rho_table ⟨m, hm⟩).2⟩)
    (fun m hm => interleave_lane _ _ 8 m hm)
  show (movemaskEpi8 (unpackhiEpi8 (slliEpi16 _ 7) (slliEpi16 _ 6)) <<< 32) ||| movemaskEpi8 (unpackloEpi8 (slliEpi16 _ 7) (slliEpi16 _ 6)) = _
  rw [hlo, hhi]
  have hlt : sumTo 16 (fun m => (byte bases (31 - m) % 4) * 4 ^ m) < 2 ^ 32 :=
    digits_lt 16 (fun m => byte bases (31 - m) % 4) (fun m => Nat.mod_lt _ (by decide))
  rw [← Nat.shiftLeft_add_eq_or_of_lt hlt, Nat.shiftLeft_eq, show (32 : Nat) = 16 + 16 from rfl, sumTo_split]
  have : sumTo 16 (fun m => byte bases (31 - (16 + m)) % 4 * 4 ^ (16 + m)) = sumTo 16 (fun m => (byte bases (15 - m) % 4) * 4 ^ m) * 2 ^ (16 + 16) := by
    rw [← sumTo_mul]
    apply sumTo_congr; intro m _
    rw [show 31 - (16 + m) = 15 - m by omega, Nat.pow_add, show (4 : Nat) ^ 16 = 2 ^ (16 + 16) by decide,
      Nat.mul_comm (2 ^ (16 + 16)) (4 ^ m), Nat.mul_assoc]
  rw [this]; omega

theorem pack_block (bases : V) (hv : IsVec bases) :
    Block64.blockSeq (BitVec.ofNat 64 (pack32Bases bases)) = bases.map (· % 4) := by
  have hs := pack_sum bases hv
  have hd : ∀ m, byte bases (31 - m) % 4 < 4 := fun m => Nat.mod_lt _ (by decide)
  have hlt : pack32Bases bases < 2 ^ 64 := by rw [hs]; exact digits_lt 32 (fun m => byte bases (31 - m) % 4) hd
  conv => rhs; rw [← map_byte_range bases hv.1, List.map_map]
  apply List.map_congr_left
  intro i hi
  have hi : i < 32 := List.mem_range.mp hi
  -- base `i` of the block is digit `31 - i` of the packed value
  show Kmer.get Block64.k32 (BitVec.ofNat 64 (pack32Bases bases)) i = byte bases i % 4
  unfold Kmer.get Kmer.addr
  rw [show (Block64.k32.K - 1 - i) * 2 = 2 * (31 - i) by simp; omega, BitVec.toNat_and, BitVec.toNat_ushiftRight,
    BitVec.toNat_ofNat, Nat.mod_eq_of_lt hlt]
  show pack32Bases bases >>> (2 * (31 - i)) &&& (2 ^ 2 - 1) = _
  rw [Nat.and_two_pow_sub_one_eq_mod, Nat.shiftRight_eq_div_pow, Nat.pow_mul, hs,
    digit_extract 32 (fun m => byte bases (31 - m) % 4) hd (31 - i) (by omega), show 31 - (31 - i) = i by omega]

theorem chunk_block (chunk : List Nat) (hv : IsVec chunk) :
    Block64.blockSeq (BitVec.ofNat 64 (pack32Bases (convertBases chunk).1)) = chunk.map baseToBits := by
  have hc := (convert_spec chunk hv).1
  have hv' : IsVec (convertBases chunk).1 := by
    rw [hc]
    exact ⟨by rw [List.length_map, hv.1], fun b hb => Nat.lt_trans (map_baseToBits_lt chunk b hb) (by decide)⟩
  rw [pack_block _ hv', hc, List.map_map]
  apply List.map_congr_left
  intro c _
  simp only [Function.comp]
  exact Nat.mod_eq_of_lt (baseToBits_lt c)

/-- the chunk loop of the vector path: storage grows by one block per whole chunk (without touching
    `len`, which stays 0), a shorter last chunk goes through `extend`; `k` blocks in all -/
theorem vecLoop_spec (d : DnaStr.T) (bytes : List Nat) (hb : ∀ b ∈ bytes, b < 256) (hl : d.len = 0) :
    ∃ d' k, vecLoop d bytes = some d' ∧ d'.storage.length = d.storage.length + k ∧
      bytes.length ≤ 32 * k ∧ 32 * k < bytes.length + 32 ∧
      DnaStr.flat d' = DnaStr.flat d ++ bytes.map baseToBits ++ List.replicate (32 * k - bytes.length) 0 := by
  fun_induction vecLoop d bytes with
  | case1 d => exact ⟨d, 0, rfl, rfl, Nat.le_refl _, by decide, by simp⟩
  | case2 d bytes hne chunk hfull packed ih =>
    have hlen : 32 ≤ bytes.length := by simp only [chunk, List.length_take] at hfull; omega
    have hv : IsVec chunk := ⟨hfull, fun b hb' => hb b (List.mem_of_mem_take hb')⟩
    obtain ⟨d', k, e, sl, h1, h2, fl⟩ := ih (fun b hb' => hb b (List.mem_of_mem_drop hb')) hl
    rw [List.length_drop] at h1 h2 fl
    have hflat : DnaStr.flat { d with storage := d.storage ++ [BitVec.ofNat 64 packed] } = DnaStr.flat d ++ chunk.map baseToBits := by
      simp only [DnaStr.flat, List.flatMap_append, List.flatMap_cons, List.flatMap_nil, List.append_nil]
      rw [show packed = pack32Bases (convertBases chunk).1 from rfl, chunk_block chunk hv]
    refine ⟨d', k + 1, e, ?_, by omega, by omega, ?_⟩
    · rw [sl]
      show (d.storage ++ [_]).length + k = _
      rw [List.length_append, List.length_singleton, Nat.add_assoc, Nat.add_comm 1]
    · rw [fl, hflat, List.append_assoc (DnaStr.flat d), ← List.map_append, List.take_append_drop]
      congr 2
      omega
  | case3 d bytes hne chunk hshort d1 hext ih =>
    -- a shorter chunk is all that remains; `extend`, with `len` at 0, packs it into blocks after the storage
    have hlen : bytes.length ≤ 32 := by rw [List.length_take] at hshort; omega
    obtain ⟨bs, p, e, hp, hp32, hf⟩ := DnaStr.extendChunks_storage d (chunk.map baseToBits) (map_baseToBits_lt chunk)
    rw [DnaStr.extend_aligned d (by rw [hl]), e] at hext; cases hext
    simp only [chunk, List.take_of_length_le hlen, List.length_map] at hp hf
    rw [List.drop_eq_nil_of_le hlen]
    unfold vecLoop
    rw [dif_pos rfl]
    refine ⟨_, bs.length, rfl, List.length_append, hp ▸ Nat.le_add_right _ _, hp ▸ Nat.add_lt_add_left hp32 _, ?_⟩
    show (d.storage ++ bs).flatMap Block64.blockSeq = _
    rw [List.flatMap_append, hf, List.append_assoc, ← hp, Nat.add_sub_cancel_left]; rfl
  | case4 d bytes hne chunk hshort hnone =>
    obtain ⟨bs, p, e, _⟩ := DnaStr.extendChunks_storage d (chunk.map baseToBits) (map_baseToBits_lt chunk)
    rw [DnaStr.extend_aligned d (by rw [hl]), e] at hnone; cases hnone

/-- the step of `from_dna_only_string` -/
def onlyStep (acc : List (List Nat) × List Nat) (c : Nat) : List (List Nat) × List Nat :=
  match Gen.dnaOnlyBaseToBits.getD (c % 256) 255 with
  | 255 => if acc.2.isEmpty then acc else (acc.2.reverse :: acc.1, [])
  | b => (acc.1, b :: acc.2)

def onlyFinish (acc : List (List Nat) × List Nat) : List (List Nat) :=
  (if acc.2.isEmpty then acc.1 else acc.2.reverse :: acc.1).reverse

theorem fromDnaOnlyString_eq (cs : List Nat) : fromDnaOnlyString cs = onlyFinish (cs.foldl onlyStep ([], [])) := by
  unfold fromDnaOnlyString onlyFinish
  rfl

def strictOk (c : Nat) : Bool := Gen.dnaOnlyBaseToBits.getD (c % 256) 255 != 255
def strictBits (c : Nat) : Nat := Gen.dnaOnlyBaseToBits.getD (c % 256) 255

theorem onlyStep_valid (acc : List (List Nat) × List Nat) (c : Nat) (h : strictOk c = true) :
    onlyStep acc c = (acc.1, strictBits c :: acc.2) := by
  unfold onlyStep strictBits
  unfold strictOk at h
  split
  · rename_i heq; rw [heq] at h; simp at h
  · rfl

theorem onlyStep_invalid (acc : List (List Nat) × List Nat) (c : Nat) (h : strictOk c = false) :
    onlyStep acc c = if acc.2.isEmpty then acc else (acc.2.reverse :: acc.1, []) := by
  unfold onlyStep
  unfold strictOk at h
  have : Gen.dnaOnlyBaseToBits.getD (c % 256) 255 = 255 := by simpa using h
  split
  · rfl
  · rename_i hne; exact absurd this (hne)

theorem fold_valid_run (g : List Nat) (hg : ∀ c ∈ g, strictOk c = true) (runs : List (List Nat)) (cur : List Nat) :
    g.foldl onlyStep (runs, cur) = (runs, (g.map strictBits).reverse ++ cur) := by
  induction g generalizing cur with
  | nil => rfl
  | cons c g ih =>
    rw [List.foldl_cons, onlyStep_valid _ c (hg c (by simp)), ih (fun x hx => hg x (by simp [hx]))]
    simp

theorem fold_run_closed (g : List Nat) (hg : ∀ c ∈ g, strictOk c = true) (x : Nat) (hx : strictOk x = false)
    (runs : List (List Nat)) :
    (g ++ [x]).foldl onlyStep (runs, []) = (if g.isEmpty then runs else g.map strictBits :: runs, []) := by
  rw [List.foldl_append, fold_valid_run g hg, List.foldl_cons, List.foldl_nil, onlyStep_invalid _ _ hx]
  cases g <;> simp

/-- **strict constructor**: for the (unique) decomposition of the text into maximal valid groups
    `g₀ x₁ g₁ x₂ … x_k g_k` (every `x_i` a non-ACGT character, every `g_i` ACGT only, possibly empty), the
    result is the converted non-empty groups, in order -/
theorem strict_runs (g0 : List Nat) (segs : List (Nat × List Nat)) (h0 : ∀ c ∈ g0, strictOk c = true)
    (hs : ∀ s ∈ segs, strictOk s.1 = false ∧ ∀ c ∈ s.2, strictOk c = true) :
    fromDnaOnlyString (g0 ++ segs.flatMap (fun s => s.1 :: s.2)) =
      ((g0 :: segs.map (·.2)).filter (fun g => !g.isEmpty)).map (·.map strictBits) := by
  rw [fromDnaOnlyString_eq]
  -- generalised over the runs already closed (kept in reverse)
  have key : ∀ (runs : List (List Nat)),
      onlyFinish ((g0 ++ segs.flatMap (fun s => s.1 :: s.2)).foldl onlyStep (runs, [])) =
        runs.reverse ++ ((g0 :: segs.map (·.2)).filter (fun g => !g.isEmpty)).map (·.map strictBits) := by
    induction segs generalizing g0 with
    | nil =>
      intro runs
      rw [List.flatMap_nil, List.append_nil, fold_valid_run g0 h0]
      unfold onlyFinish
      cases g0 <;> simp
    | cons s segs ih =>
      intro runs
      obtain ⟨hx, hg⟩ := hs s (by simp)
      rw [List.flatMap_cons, show g0 ++ (s.1 :: s.2 ++ segs.flatMap (fun s => s.1 :: s.2)) =
          (g0 ++ [s.1]) ++ (s.2 ++ segs.flatMap (fun s => s.1 :: s.2)) by simp,
        List.foldl_append, fold_run_closed g0 h0 s.1 hx, ih s.2 hg (fun t ht => hs t (by simp [ht]))]
      cases g0 <;> simp
  simpa using key []

/-- **hashed-N constructor**, for any hasher `h`: ACGT untouched, every other position replaced by `h pos % 4` -/
theorem hashn_spec (bytes : List Nat) (h : Nat → Nat) :
    ∃ d, fromAcgtBytesHashn bytes h = some d ∧ DnaStr.Inv d ∧
      DnaStr.toSeq d = bytes.zipIdx.map (fun cp => if Gen.hashnArms.getD cp.1 255 = 255 then h cp.2 % 4 else Gen.hashnArms.getD cp.1 255) := by
  have hv : ∀ c : Nat, Gen.hashnArms.getD c 255 = 255 ∨ Gen.hashnArms.getD c 255 < 4 := by
    intro c
    rw [hashnArms_eq, dnaOnly_table, getD_map_range]
    repeat' split
    · exact Or.inr (asciiToBase_lt c)
    · exact Or.inl rfl
    · exact Or.inl rfl
  have hval : ∀ cp : Nat × Nat, hashnBase h cp =
      if Gen.hashnArms.getD cp.1 255 = 255 then h cp.2 % 4 else Gen.hashnArms.getD cp.1 255 := by
    intro cp
    unfold hashnBase
    split
    · next heq => rw [if_pos heq]
    · next hne => rw [if_neg hne]
  obtain ⟨d, e, i, s, _⟩ := DnaStr.pushFold_spec (fun acc cp => acc.bind fun d => DnaStr.push d (hashnBase h cp)) _ bytes.zipIdx
    (fun d cp _ => congrArg (DnaStr.push d) (hval cp))
    (fun cp _ => by
      split
      · exact Nat.mod_lt _ (by decide)
      · next hne => exact (hv cp.1).resolve_left hne)
    DnaStr.new DnaStr.inv_new
  exact ⟨d, e, i, s⟩

end Avx2
