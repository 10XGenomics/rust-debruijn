import Dbg.Model.ExtsOps
/-! Extension sets as bits (`impl Exts`, lib.rs 585-752): a byte, low nibble = left extensions, high nibble = right
    extensions.  Counting and the unique extension are facts about one nibble; `reverse`, `complement`, `rc`, `add`,
    `set` and `from_single_dirs` are followed through the eight memberships (`Exts.hasExt`, a bit of the byte). -/
namespace Compress
open Walk (Dir)

def nibCnt (b : Nat) : Nat := (b &&& 1) + ((b &&& 2) >>> 1) + ((b &&& 4) >>> 2) + ((b &&& 8) >>> 3)
def nibUniq (b : Nat) : Option Base :=
  if b &&& 1 > 0 then some 0 else if b &&& 2 > 0 then some 1 else if b &&& 4 > 0 then some 2
  else if b &&& 8 > 0 then some 3 else none
def nibHas (n : Nat) (b : Base) : Bool := n &&& (1 <<< b.val) != 0

theorem and_one_shiftLeft_ne_zero (n b : Nat) : (n &&& (1 <<< b) != 0) = n.testBit b := by
  rw [Nat.one_shiftLeft]
  cases h : n.testBit b
  · have : n &&& 2 ^ b = 0 := by
      apply Nat.eq_of_testBit_eq
      intro j
      rw [Nat.testBit_and, Nat.testBit_two_pow, Nat.zero_testBit]
      by_cases hj : b = j
      · rw [← hj, h, Bool.false_and]
      · rw [decide_eq_false hj, Bool.and_false]
    rw [this]; rfl
  · have : (n &&& 2 ^ b).testBit b = true := by rw [Nat.testBit_and, h, Nat.testBit_two_pow_self]; rfl
    rw [bne_iff_ne]
    intro h0
    rw [h0, Nat.zero_testBit] at this
    exact absurd this (by decide)

theorem nibHas_eq_testBit (n : Nat) (b : Base) : nibHas n b = n.testBit b.val := and_one_shiftLeft_ne_zero n b.val

theorem Exts.hasExt_eq_testBit (e : Exts) (d : Dir) (b : Nat) : e.hasExt d b = (e.dirBits d).testBit b := by
  rw [← and_one_shiftLeft_ne_zero]
  unfold Exts.hasExt
  rw [Bool.eq_iff_iff, decide_eq_true_eq, bne_iff_ne]
  exact Nat.pos_iff_ne_zero

theorem Exts.testBit_dirBits_L (e : Exts) (b : Nat) : (e.dirBits .L).testBit b = (e.val.testBit b && decide (b < 4)) := by
  show (e.val &&& (2 ^ 4 - 1)).testBit b = _
  rw [Nat.testBit_and, Nat.testBit_two_pow_sub_one]

theorem Exts.testBit_dirBits_R (e : Exts) (b : Nat) : (e.dirBits .R).testBit b = e.val.testBit (4 + b) :=
  Nat.testBit_shiftRight ..

theorem testBit_byte (v i : Nat) (hv : v < 256) (hi : 8 ≤ i) : v.testBit i = false :=
  Nat.testBit_lt_two_pow (Nat.lt_of_lt_of_le hv (Nat.pow_le_pow_right (n := 2) (by decide) hi))

theorem numExtDir_eq (e : Exts) (d : Dir) : e.numExtDir d = nibCnt (e.dirBits d) := rfl

theorem uniqueExt_eq (e : Exts) (d : Dir) :
    e.uniqueExt d = if nibCnt (e.dirBits d) != 1 then none else nibUniq (e.dirBits d) := rfl

theorem nib_table : ∀ n : Fin 16, ∀ b : Base,
    (nibCnt n.val = 1 → nibHas n.val b = true → nibUniq n.val = some b) ∧
    (nibCnt n.val = 1 → nibUniq n.val = some b → nibHas n.val b = true) ∧
    (nibHas n.val b = true → nibCnt n.val ≠ 0) ∧
    (nibCnt n.val = 1 → ∃ c, nibUniq n.val = some c) := by decide

theorem nib_get_table : ∀ n : Fin 16,
    nibCnt n.val = ((List.range 4).filter fun i => n.val &&& (1 <<< i) > 0).length ∧
    ∀ b : Base, (if nibCnt n.val != 1 then none else nibUniq n.val) = some b ↔
      ((List.range 4).filter fun i => n.val &&& (1 <<< i) > 0) = [b.val] := by decide

theorem dirBits_lt (e : Exts) (h : e.val < 256) (d : Dir) : e.dirBits d < 16 := by
  cases d
  · show e.val &&& 0xf < 16
    exact Nat.lt_of_le_of_lt Nat.and_le_right (by decide)
  · show e.val >>> 4 < 16
    rw [Nat.shiftRight_eq_div_pow]; omega

theorem Exts.eq_of_hasExt (a b : Exts) (ha : a.val < 256) (hb : b.val < 256)
    (h : ∀ (d : Dir) (x : Base), a.hasExt d x.val = b.hasExt d x.val) : a = b := by
  cases a with | mk av => cases b with | mk bv =>
  congr 1
  apply Nat.eq_of_testBit_eq
  intro i
  by_cases h4 : i < 4
  · have := h .L ⟨i, h4⟩
    rwa [Exts.hasExt_eq_testBit, Exts.hasExt_eq_testBit, Exts.testBit_dirBits_L, Exts.testBit_dirBits_L, decide_eq_true h4,
      Bool.and_true, Bool.and_true] at this
  · by_cases h8 : i < 8
    · have := h .R ⟨i - 4, by omega⟩
      rwa [Exts.hasExt_eq_testBit, Exts.hasExt_eq_testBit, Exts.testBit_dirBits_R, Exts.testBit_dirBits_R, show 4 + (i - 4) = i by omega] at this
    · rw [testBit_byte av i ha (by omega), testBit_byte bv i hb (by omega)]

theorem Exts.reverse_hasExt (e : Exts) (he : e.val < 256) (d : Dir) (x : Base) : e.reverse.hasExt d x.val = e.hasExt d.flip x.val := by
  have hx := x.isLt
  have hval : e.reverse.val = (((e.val &&& (2 ^ 4 - 1)) <<< 4) ||| (e.val >>> 4)) % 2 ^ 8 := rfl
  cases d <;>
    simp only [Exts.hasExt_eq_testBit, Exts.testBit_dirBits_L, Exts.testBit_dirBits_R, Dir.flip, hval, Nat.testBit_mod_two_pow,
      Nat.testBit_or, Nat.testBit_shiftLeft, Nat.testBit_shiftRight, Nat.testBit_and, Nat.testBit_two_pow_sub_one]
  -- bit `x` of the result is bit `4 + x` of `e`; bit `4 + x` is bit `x`, bit `8 + x` being clear
  · rw [decide_eq_true (show x.val < 8 by omega), decide_eq_false (show ¬ x.val ≥ 4 by omega), decide_eq_true hx]
    simp
  · rw [Nat.add_sub_cancel_left, decide_eq_true (show 4 + x.val < 8 by omega), decide_eq_true (show 4 + x.val ≥ 4 by omega),
      testBit_byte _ _ he (show 8 ≤ 4 + (4 + x.val) by omega)]
    simp

theorem Exts.reverse_lt (e : Exts) : e.reverse.val < 256 := Nat.mod_lt _ (by decide)

theorem Exts.complement_lt (e : Exts) : e.complement.val < 256 := Nat.mod_lt _ (by decide)

def nibRev (n : Nat) : Nat := (n &&& 1) * 8 + (n &&& 2) * 2 + (n &&& 4) / 2 + (n &&& 8) / 8

theorem nibRev_table : ∀ n : Fin 16,
    nibRev n.val < 16 ∧ ∀ b : Base, (nibRev n.val).testBit b.val = n.val.testBit (3 - b.val) := by decide

/-- the two rounds of `complement` (swap neighbouring bits, swap neighbouring pairs) reverse each nibble -/
theorem complement_nibbles : ∀ v : Fin 256,
    (⟨v.val⟩ : Exts).complement.val = nibRev (v.val % 16) + 16 * nibRev (v.val / 16) := by decide +kernel

theorem Exts.complement_dirBits (e : Exts) (he : e.val < 256) (d : Dir) :
    e.complement.dirBits d = nibRev (e.dirBits d) := by
  have hlo : nibRev (e.val % 16) < 16 := (nibRev_table ⟨e.val % 16, Nat.mod_lt _ (by decide)⟩).1
  have hv : e.complement.val = nibRev (e.val % 16) + 16 * nibRev (e.val / 16) := complement_nibbles ⟨e.val, he⟩
  cases d
  · show e.complement.val &&& (2 ^ 4 - 1) = nibRev (e.val &&& (2 ^ 4 - 1))
    rw [Nat.and_two_pow_sub_one_eq_mod, Nat.and_two_pow_sub_one_eq_mod, hv, Nat.add_mul_mod_self_left, Nat.mod_eq_of_lt hlo]
  · show e.complement.val >>> 4 = nibRev (e.val >>> 4)
    rw [Nat.shiftRight_eq_div_pow, Nat.shiftRight_eq_div_pow, hv, Nat.add_mul_div_left _ _ (by decide), Nat.div_eq_of_lt hlo,
      Nat.zero_add]

theorem Exts.complement_hasExt (e : Exts) (he : e.val < 256) (d : Dir) (x : Base) :
    e.complement.hasExt d x.val = e.hasExt d (3 - x.val) := by
  rw [Exts.hasExt_eq_testBit, Exts.hasExt_eq_testBit, Exts.complement_dirBits e he d]
  exact (nibRev_table ⟨_, dirBits_lt e he d⟩).2 x

theorem Exts.rc_hasExt (e : Exts) (he : e.val < 256) (d : Dir) (x : Base) : e.rc.hasExt d x.val = e.hasExt d.flip (3 - x.val) :=
  (Exts.complement_hasExt e.reverse (Exts.reverse_lt e) d x).trans (Exts.reverse_hasExt e he d (comp x))

theorem Exts.rc_lt (e : Exts) : e.rc.val < 256 := Exts.complement_lt _

theorem Exts.rc_rc (e : Exts) (he : e.val < 256) : e.rc.rc = e := by
  apply Exts.eq_of_hasExt _ _ (Exts.rc_lt _) he
  intro d x
  rw [Exts.rc_hasExt _ (Exts.rc_lt e), show 3 - x.val = (comp x).val from rfl, Exts.rc_hasExt _ he, Dir.flip_flip]
  congr 1
  show 3 - (3 - x.val) = x.val
  omega

theorem exts_add (a b : Exts) (d : Dir) : (a.add b).dirBits d = a.dirBits d ||| b.dirBits d := by
  cases d
  · exact Nat.and_or_distrib_right ..
  · exact Nat.shiftRight_or_distrib ..

theorem Exts.add_hasExt (a b : Exts) (d : Dir) (x : Nat) : (a.add b).hasExt d x = (a.hasExt d x || b.hasExt d x) := by
  rw [Exts.hasExt_eq_testBit, Exts.hasExt_eq_testBit, Exts.hasExt_eq_testBit, exts_add, Nat.testBit_or]

theorem Exts.set_hasExt (e : Exts) (d : Dir) (p : Fin 4) (d' : Dir) (x : Fin 4) :
    (Graph.Exts.set e d p.val).hasExt d' x.val = (e.hasExt d' x.val || (decide (d = d') && decide (p = x))) := by
  show (e.add ⟨(1 <<< (p.val + (match d with | .R => 4 | .L => 0))) % 256⟩).hasExt d' x.val = _
  rw [Exts.add_hasExt]
  congr 1
  revert p x
  cases d <;> cases d' <;> decide

/-- `from_single_dirs(left, right)`: the left extensions of `left`, and the *left* nibble of `right` as right extensions -/
theorem exts_fromSingleDirs (l r : Exts) :
    (Exts.fromSingleDirs l r).dirBits .L = l.dirBits .L ∧ (Exts.fromSingleDirs l r).dirBits .R = r.dirBits .L := by
  have and15 : ∀ x : Nat, x &&& 0xf = x % 16 := fun x => Nat.and_two_pow_sub_one_eq_mod x 4
  have hval : (r.val <<< 4) % 256 ||| (l.val &&& 0xf) = (r.val % 16) * 16 + l.val % 16 := by
    rw [and15, show (r.val <<< 4) % 256 = (r.val % 16) <<< 4 by
      rw [Nat.shiftLeft_eq, Nat.shiftLeft_eq, show (256 : Nat) = 16 * 2 ^ 4 from rfl, Nat.mul_mod_mul_right],
      ← Nat.shiftLeft_add_eq_or_of_lt (Nat.mod_lt _ (by decide)), Nat.shiftLeft_eq]
  constructor
  · show (_ ||| _) &&& 0xf = l.val &&& 0xf
    rw [hval, and15, and15]; omega
  · show (_ ||| _) >>> 4 = r.val &&& 0xf
    rw [hval, and15, Nat.shiftRight_eq_div_pow]; omega

end Compress
