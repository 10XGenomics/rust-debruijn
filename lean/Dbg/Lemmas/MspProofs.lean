import Dbg.Model.Msp
/-! The minimizer scan of `Scanner::scan` (msp.rs): each entry of `min_positions` is the leftmost minimum of its window
    (`IvOK`), by induction over the steps of the scan loop. -/
namespace Msp

/-- the open/closed interval covering k-mer starts `s..e` with minimizer `mn` -/
structure IvOK (sc : Nat → Nat) (d s e : Nat) (mn : MinPos) : Prop where
  hval : mn.val = sc mn.pos
  hse : s ≤ e
  lo : e ≤ mn.pos
  hi : mn.pos ≤ s + d
  hmin : ∀ q, s ≤ q → q ≤ e + d → mn.val ≤ sc q

theorem mpMin_spec (a b : MinPos) : (mpMin a b = a ∨ mpMin a b = b) ∧ (mpMin a b).val ≤ a.val ∧ (mpMin a b).val ≤ b.val := by
  unfold mpMin
  split <;> rename_i h <;>
    simp only [mpLe, Bool.or_eq_true, Bool.and_eq_true, decide_eq_true_eq, beq_iff_eq] at h
  · exact ⟨Or.inl rfl, Nat.le_refl _, by omega⟩
  · exact ⟨Or.inr rfl, by omega, Nat.le_refl _⟩

theorem le_sc_succ {sc : Nat → Nat} {v lo hi hi' : Nat} (h : ∀ q, lo ≤ q → q ≤ hi → v ≤ sc q) (hhi : hi' = hi + 1)
    (hv : v ≤ sc hi') : ∀ q, lo ≤ q → q ≤ hi' → v ≤ sc q := fun q h1 h2 => by
  subst hhi
  rcases Nat.lt_or_ge hi q with hq | hq
  · rw [Nat.le_antisymm h2 hq]; exact hv
  · exact h q h1 hq

theorem findMin_ok (sc : Nat → Nat) (a n : Nat) : IvOK sc n a a (findMin sc a n) := by
  induction n with
  | zero => exact ⟨rfl, Nat.le_refl _, Nat.le_refl _, Nat.le_refl _, fun q h1 h2 => by rw [Nat.le_antisymm h2 h1]; exact Nat.le_refl _⟩
  | succ n ih =>
    obtain ⟨hc, hl, hr⟩ := mpMin_spec (findMin sc a n) (mp sc (a + n + 1))
    have hmin : ∀ q, a ≤ q → q ≤ a + (n + 1) → (findMin sc a (n + 1)).val ≤ sc q :=
      le_sc_succ (fun q h1 hq => Nat.le_trans hl (ih.hmin q h1 hq)) rfl hr
    have hlo := ih.lo
    have hhi := ih.hi
    rw [findMin] at hmin ⊢
    rcases hc with e | e <;> rw [e] at hmin ⊢
    · exact ⟨ih.hval, Nat.le_refl _, hlo, by omega, hmin⟩
    · exact ⟨rfl, Nat.le_refl _, (by omega : a ≤ a + n + 1), Nat.le_refl _, hmin⟩

/-- invariant on the reversed `min_positions`: head is the open interval covering `s..cur` -/
def AccOK (sc : Nat → Nat) (d : Nat) : Nat → List (Nat × MinPos) → Prop
  | _, [] => False
  | cur, [(s, mn)] => s = 0 ∧ IvOK sc d s cur mn
  | cur, (s, mn) :: (s', mn') :: rest =>
      IvOK sc d s cur mn ∧ s' < s ∧ (mn'.pos < s ∨ sc (s + d) < mn'.val) ∧ AccOK sc d (s - 1) ((s', mn') :: rest)

theorem AccOK_head {sc d cur s mn rest} (h : AccOK sc d cur ((s, mn) :: rest)) : IvOK sc d s cur mn := by
  cases rest with
  | nil => exact h.2
  | cons x xs => obtain ⟨s', mn'⟩ := x; exact h.1

theorem AccOK_extend {sc d cur s mn rest} (h : AccOK sc d cur ((s, mn) :: rest)) (cur' : Nat)
    (h' : IvOK sc d s cur' mn) : AccOK sc d cur' ((s, mn) :: rest) := by
  cases rest with
  | nil => exact ⟨h.1, h'⟩
  | cons x xs => obtain ⟨s', mn'⟩ := x; exact ⟨h', h.2⟩

theorem AccOK_push {sc d cur s mn rest} (h : AccOK sc d cur ((s, mn) :: rest)) (i : Nat) (mn2 : MinPos)
    (hi : i = cur + 1) (hnew : IvOK sc d i i mn2) (hend : mn.pos < i ∨ sc (i + d) < mn.val) :
    AccOK sc d i ((i, mn2) :: (s, mn) :: rest) := by
  have hh := AccOK_head h
  refine ⟨hnew, ?_, hend, ?_⟩
  · have := hh.hse; omega
  · have : i - 1 = cur := by omega
    rw [this]; exact h

theorem scanLoop_inv (sc : Nat → Nat) (d : Nat) :
    ∀ (len i0 s : Nat) (mn : MinPos) (rest : List (Nat × MinPos)), AccOK sc d i0 ((s, mn) :: rest) →
      ∃ s' mn' rest', scanLoop sc d (List.range' (i0 + 1) len) mn ((s, mn) :: rest) = (s', mn') :: rest' ∧
        AccOK sc d (i0 + len) ((s', mn') :: rest') := by
  intro len
  induction len with
  | zero => exact fun i0 s mn rest h => ⟨s, mn, rest, rfl, h⟩
  | succ n ih =>
    intro i0 s mn rest h
    have hh := AccOK_head h
    have hse := hh.hse
    have next : ∀ s2 mn2 rest2, AccOK sc d (i0 + 1) ((s2, mn2) :: rest2) →
        ∃ s' mn' rest', scanLoop sc d (List.range' (i0 + 1 + 1) n) mn2 ((s2, mn2) :: rest2) = (s', mn') :: rest' ∧
          AccOK sc d (i0 + (n + 1)) ((s', mn') :: rest') := fun s2 mn2 rest2 h2 => by
      rw [show i0 + (n + 1) = i0 + 1 + n by omega]; exact ih (i0 + 1) s2 mn2 rest2 h2
    rw [List.range'_succ, scanLoop]
    by_cases c1 : i0 + 1 > mn.pos
    · -- the minimizer has left the window: a new interval with a fresh minimum
      rw [if_pos c1]
      exact next _ _ _ (AccOK_push h (i0 + 1) _ rfl (findMin_ok sc (i0 + 1) d) (Or.inl c1))
    · rw [if_neg c1]
      by_cases c2 : (mp sc (i0 + 1 + d)).val < mn.val
      · -- the base entering the window scores less: a new interval with it as minimizer
        rw [if_pos c2]
        exact next _ _ _ (AccOK_push h (i0 + 1) _ rfl ⟨rfl, Nat.le_refl _, Nat.le_add_right _ d, Nat.le_refl _,
          le_sc_succ (fun q hq1 hq => Nat.le_of_lt (Nat.lt_of_lt_of_le c2 (hh.hmin q (Nat.le_trans hse (Nat.le_of_succ_le hq1)) hq)))
            (Nat.add_right_comm i0 1 d) (Nat.le_refl _)⟩ (Or.inr c2))
      · -- the interval goes on
        rw [if_neg c2]
        exact next _ _ _ (AccOK_extend h (i0 + 1) ⟨hh.hval, by omega, by omega, hh.hi,
          le_sc_succ hh.hmin (Nat.add_right_comm i0 1 d) (Nat.le_of_not_lt c2)⟩)

theorem minPositions_ok (sc : Nat → Nat) (d n : Nat) (hn : 1 ≤ n) :
    ∃ s mn rest, minPositions sc d n = (s, mn) :: rest ∧ AccOK sc d (n - 1) ((s, mn) :: rest) := by
  have := scanLoop_inv sc d (n - 1) 0 0 (findMin sc 0 d) [] ⟨rfl, findMin_ok sc 0 d⟩
  rwa [Nat.zero_add, Nat.zero_add] at this

end Msp
