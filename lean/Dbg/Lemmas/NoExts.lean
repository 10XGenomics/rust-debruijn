import Dbg.Lemmas.GraphSym
/-! The table built by `compress_kmers_no_exts` (extensions discovered by membership) is well-formed and reciprocal. -/
namespace Compress
open Walk (Dir)
open Filter (has has_iff bitIdx ExtSym2)
variable {D : Type}

/-- one nibble of discovered extensions: bit `b + off` is set for every base `b` passing the test, no other bit is -/
def foldBits (P : Base → Bool) (off : Nat) : Nat :=
  (List.range 4).foldl (fun acc b => match (if h : b < 4 then some (⟨b, h⟩ : Base) else none) with
    | some bb => if P bb then acc ||| (1 <<< (b + off)) else acc
    | none => acc) 0

theorem testBit_setIf (c : Bool) (acc i j : Nat) :
    (if c = true then acc ||| (1 <<< i) else acc).testBit j = (acc.testBit j || (c && decide (i = j))) := by
  cases c <;> simp [Nat.testBit_or, Nat.one_shiftLeft, Nat.testBit_two_pow]

theorem foldBits_testBit (P : Base → Bool) (off j : Nat) :
    (foldBits P off).testBit j = ((P 0 && decide (0 + off = j)) || (P 1 && decide (1 + off = j)) ||
      (P 2 && decide (2 + off = j)) || (P 3 && decide (3 + off = j))) := by
  simp only [foldBits, show List.range 4 = [0, 1, 2, 3] from rfl, List.foldl_cons, List.foldl_nil, Nat.reduceLT, dite_true,
    testBit_setIf, Nat.zero_testBit, Bool.false_or]
  rfl

theorem foldBits_bit (P : Base → Bool) (off : Nat) (b : Base) : (foldBits P off).testBit (b.val + off) = P b := by
  rw [foldBits_testBit]
  obtain ⟨v, hv⟩ := b
  have : v = 0 ∨ v = 1 ∨ v = 2 ∨ v = 3 := by omega
  rcases this with rfl | rfl | rfl | rfl <;> simp

theorem foldBits_clear (P : Base → Bool) (off j : Nat) (h : j < off ∨ off + 4 ≤ j) : (foldBits P off).testBit j = false := by
  rw [foldBits_testBit]
  simp only [Bool.or_eq_false_iff, Bool.and_eq_false_iff, decide_eq_false_iff_not]
  omega

theorem discoverExts_eq (st : Bool) (keys : List Seq) (k : Seq) :
    discoverExts st keys k = ⟨foldBits (fun b => keys.contains (canonSt st (extendLeft k b)).1) 0 |||
      foldBits (fun b => keys.contains (canonSt st (extendRight k b)).1) 4⟩ := rfl

theorem has_discover (st : Bool) (keys : List Seq) (k : Seq) (d : Dir) (b : Base) :
    has (discoverExts st keys k) d b ↔ (canonSt st (extend k b d)).1 ∈ keys := by
  have hb := b.isLt
  rw [has_iff, discoverExts_eq, Nat.testBit_or]
  cases d
  · rw [show bitIdx .L b = b.val + 0 from rfl, foldBits_bit, foldBits_clear _ 4 _ (by omega)]
    simp [extend]
  · rw [show bitIdx .R b = b.val + 4 from rfl, foldBits_bit, foldBits_clear _ 0 _ (by omega)]
    simp [extend]

theorem discoverExts_lt (st : Bool) (keys : List Seq) (k : Seq) : (discoverExts st keys k).val < 256 := by
  rw [discoverExts_eq]
  apply Nat.lt_pow_two_of_testBit (n := 8)
  intro i hi
  rw [Nat.testBit_or, foldBits_clear _ 0 _ (by omega), foldBits_clear _ 4 _ (by omega)]
  rfl

/-- the table `compress_kmers_no_exts` builds from a list of (k-mer, payload) pairs -/
def noExtsTable (st : Bool) (kd : List (Seq × D)) : Table D :=
  kd.map fun p => ⟨p.1, discoverExts st (kd.map (·.1)) p.1, p.2⟩

theorem noExts_keys (st : Bool) (kd : List (Seq × D)) : (noExtsTable st kd).map (·.key) = kd.map (·.1) := by
  unfold noExtsTable; simp [List.map_map, Function.comp_def]

theorem noExts_table_ok (st : Bool) (K : Nat) (hK : 1 ≤ K) (kd : List (Seq × D)) (hlen : ∀ p ∈ kd, p.1.length = K)
    (hnd : (kd.map (·.1)).Nodup) (hcan : st = false → ∀ p ∈ kd, ¬ rc p.1 < p.1) :
    WF (noExtsTable st kd) K st ∧ ExtSym2 (noExtsTable st kd) st := by
  have wf : WF (noExtsTable st kd) K st :=
    .of_mem hK (List.forall_mem_map.mpr hlen) (noExts_keys st kd ▸ hnd) (fun hst => List.forall_mem_map.mpr (hcan hst))
      (List.forall_mem_map.mpr fun p _ => discoverExts_lt st _ p.1)
  refine ⟨wf, fun x ex d b y ey hx hb hy hy' => .inl ?_⟩
  have hne := wf.key_ne_nil hx
  obtain ⟨p, hp, rfl⟩ := List.mem_map.mp (List.mem_of_getElem? hx)
  obtain ⟨q, hq, rfl⟩ := List.mem_map.mp (List.mem_of_getElem? hy')
  obtain ⟨ey', hy'', hkey⟩ := findId_some hy
  cases hy'.symm.trans hy''
  simp only at hkey hne ⊢
  -- the entry found has the extended key, and extending that key back gives `p.1`, which is among the keys
  rw [has_discover, hkey, Filter.canon_back_key hne fun hst => hcan hst p hp]
  exact List.mem_map_of_mem hp

end Compress
