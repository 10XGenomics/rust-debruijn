/-! Base-4 value order = lexicographic order (most significant digit first) on digit lists of equal length. -/
namespace Lex

def val (l : List Nat) : Nat := l.foldl (fun acc d => 4 * acc + d) 0

theorem foldl_val (acc : Nat) (l : List Nat) :
    l.foldl (fun acc d => 4 * acc + d) acc = acc * 4 ^ l.length + val l := by
  induction l generalizing acc with
  | nil => simp [val]
  | cons a t ih =>
    have e1 : (a :: t).foldl (fun acc d => 4 * acc + d) acc = (4 * acc + a) * 4 ^ t.length + val t := ih _
    have e2 : val (a :: t) = (4 * 0 + a) * 4 ^ t.length + val t := ih _
    rw [e1, e2, List.length_cons, Nat.pow_succ, Nat.add_mul, Nat.mul_assoc 4 acc, ← Nat.mul_assoc acc]
    simp only [Nat.mul_zero, Nat.zero_add]
    omega

theorem val_cons (a : Nat) (t : List Nat) : val (a :: t) = a * 4 ^ t.length + val t := by
  show List.foldl (fun acc d => 4 * acc + d) (4 * 0 + a) t = _
  rw [foldl_val]; simp

theorem val_lt (l : List Nat) (h : ∀ d ∈ l, d < 4) : val l < 4 ^ l.length := by
  induction l with
  | nil => simp [val]
  | cons a t ih =>
    rw [val_cons, List.length_cons, Nat.pow_succ]
    have h1 := ih (fun d hd => h d (List.mem_cons_of_mem _ hd))
    have h2 : a < 4 := h a (List.mem_cons_self)
    have : a * 4 ^ t.length ≤ 3 * 4 ^ t.length := Nat.mul_le_mul_right _ (by omega)
    omega

/-- comparing two numbers by their leading digit, then by the rest -/
theorem digit_lt_iff (P a b r1 r2 : Nat) (h1 : r1 < P) (h2 : r2 < P) :
    a * P + r1 < b * P + r2 ↔ a < b ∨ a = b ∧ r1 < r2 := by
  rcases Nat.lt_trichotomy a b with h | rfl | h
  · have := Nat.mul_le_mul_right P (Nat.succ_le_of_lt h)
    rw [Nat.succ_mul] at this
    omega
  · omega
  · have := Nat.mul_le_mul_right P (Nat.succ_le_of_lt h)
    rw [Nat.succ_mul] at this
    omega

theorem val_lt_iff_lex (l1 l2 : List Nat) (hlen : l1.length = l2.length)
    (h1 : ∀ d ∈ l1, d < 4) (h2 : ∀ d ∈ l2, d < 4) : val l1 < val l2 ↔ l1 < l2 := by
  induction l1 generalizing l2 with
  | nil =>
    cases l2 with
    | nil => simp [val]
    | cons b t => simp at hlen
  | cons a t1 ih =>
    cases l2 with
    | nil => simp at hlen
    | cons b t2 =>
      simp only [List.length_cons, Nat.add_right_cancel_iff] at hlen
      have ht1 := fun d hd => h1 d (List.mem_cons_of_mem _ hd)
      have ht2 := fun d hd => h2 d (List.mem_cons_of_mem _ hd)
      rw [val_cons, val_cons, hlen, List.cons_lt_cons_iff, ← ih t2 hlen ht1 ht2]
      exact digit_lt_iff _ a b _ _ (hlen ▸ val_lt t1 ht1) (val_lt t2 ht2)

theorem val_inj (l1 l2 : List Nat) (hl : l1.length = l2.length) (h1 : ∀ d ∈ l1, d < 4) (h2 : ∀ d ∈ l2, d < 4)
    (h : val l1 = val l2) : l1 = l2 := by
  rcases Std.lt_trichotomy l1 l2 with h' | h' | h'
  · exact absurd ((val_lt_iff_lex _ _ hl h1 h2).mpr h') (by omega)
  · exact h'
  · exact absurd ((val_lt_iff_lex _ _ hl.symm h2 h1).mpr h') (by omega)

end Lex
