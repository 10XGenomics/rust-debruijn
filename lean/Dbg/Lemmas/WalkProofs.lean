import Dbg.Model.Walk
/-! The seed-and-walk loop of both compressions, over an arbitrary link relation `link : Id → Dir → Option (Id × Dir)`
    that is reciprocal (`Sym`): a finished walk is *sealed* (every link out of it leads to an id that is no longer available),
    so the nodes are duplicate-free, cover the ids, and two ids share a node iff links connect them (`compress_components`). -/
namespace Walk

variable (link : Link)

/-- reciprocity of links (from `ExtSym` + symmetric join) -/
def Sym : Prop := ∀ x d y d', link x d = some (y, d') → link y d'.flip = some (x, d.flip)

def Rel (x y : Nat) : Prop := ∃ d d', link x d = some (y, d')

inductive Conn : Nat → Nat → Prop
  | refl (x) : Conn x x
  | step {x y z} : Conn x y → Rel link y z → Conn x z

theorem Conn.trans {x y z} (h1 : Conn link x y) (h2 : Conn link y z) : Conn link x z := by
  induction h2 with
  | refl => exact h1
  | step _ r ih => exact Conn.step ih r
theorem Conn.symm (hs : Sym link) {x y} (h : Conn link x y) : Conn link y x := by
  induction h with
  | refl => exact Conn.refl _
  | step _ r ih =>
    obtain ⟨d, d', hl⟩ := r
    exact Conn.trans link (Conn.step (Conn.refl _) ⟨_, _, hs _ _ _ _ hl⟩) ih

structure WalkOK (avail : List Nat) (x : Nat) (d : Dir) (r : List (Nat × Dir) × List Nat) : Prop where
  sub : ∀ z, z ∈ r.2 ↔ z ∈ avail ∧ z ∉ r.1.map Prod.fst
  ids : ∀ z ∈ r.1.map Prod.fst, z ∈ avail
  fwd : ∀ y d'', link x d = some (y, d'') → y ∉ r.2
  both : ∀ w dw, (w, dw) ∈ r.1 → (∀ y d'', link w dw = some (y, d'') → y ∉ r.2) ∧
                                 (∀ y d'', link w dw.flip = some (y, d'') → y ∉ r.2)
  nodup : (r.1.map Prod.fst).Nodup
  conn : ∀ z ∈ r.1.map Prod.fst, Conn link x z

theorem WalkOK.nil {avail : List Nat} {x : Nat} {d : Dir} (h : ∀ y d'', link x d = some (y, d'') → y ∉ avail) :
    WalkOK link avail x d ([], avail) where
  sub := fun z => by simp
  ids := fun z hz => by simp at hz
  fwd := h
  both := fun w dw hw => by simp at hw
  nodup := by simp
  conn := fun z hz => by simp at hz

theorem not_mem_rm (avail : List Nat) (y : Nat) : y ∉ rm avail y := fun h => (mem_rm.mp h).2 rfl

theorem walk_ok (hs : Sym link) (avail : List Nat) (x : Nat) (d : Dir) (hx : x ∉ avail) :
    WalkOK link avail x d (walk link avail x d) := by
  fun_induction walk link avail x d with
  | case1 avail x d y d' hl hy r ih =>
    have hy' := not_mem_rm avail y
    have ih := ih hy'
    have sub : ∀ z, z ∈ r.2 ↔ z ∈ avail ∧ z ∉ y :: r.1.map Prod.fst := fun z => by
      rw [ih.sub z, mem_rm, List.mem_cons]; grind
    refine ⟨sub, ?_, ?_, ?_, List.nodup_cons.mpr ⟨fun h => hy' (ih.ids y h), ih.nodup⟩, ?_⟩
    · exact List.forall_mem_cons.mpr ⟨hy, fun z hz => (mem_rm.mp (ih.ids z hz)).1⟩
    · intro y2 d2 hl2
      cases hl.symm.trans hl2
      exact fun h => ((sub y).mp h).2 List.mem_cons_self
    · intro w dw hw
      rcases List.mem_cons.mp hw with h | hw
      · cases h
        -- the link back from `y` leads to `x`, which is not available
        refine ⟨ih.fwd, fun y2 d2 hl2 h => ?_⟩
        cases (hs _ _ _ _ hl).symm.trans hl2
        exact hx ((sub x).mp h).1
      · exact ih.both w dw hw
    · have hxy : Conn link x y := .step (.refl _) ⟨_, _, hl⟩
      exact List.forall_mem_cons.mpr ⟨hxy, fun z hz => hxy.trans link (ih.conn z hz)⟩
  | case2 avail x d y d' hl hy =>
    refine .nil link fun y2 d2 hl2 => ?_
    cases hl.symm.trans hl2
    exact hy
  | case3 avail x d hl =>
    exact .nil link fun y2 d2 hl2 => by rw [hl] at hl2; cases hl2

theorem nodup_reverse' {l : List Nat} (h : l.Nodup) : l.reverse.Nodup := by
  unfold List.Nodup at *
  rw [List.pairwise_reverse]
  exact h.imp (fun h => Ne.symm h)

theorem dir_cases (δ dw : Dir) : δ = dw ∨ δ = dw.flip := by cases δ <;> cases dw <;> simp [Dir.flip]

def SealedAt (a : List Nat) (w : Nat) : Prop := ∀ δ y d'', link w δ = some (y, d'') → y ∉ a

theorem WalkOK.sealed {avail : List Nat} {x : Nat} {d : Dir} {r : List (Nat × Dir) × List Nat} (h : WalkOK link avail x d r) :
    ∀ w ∈ r.1.map Prod.fst, SealedAt link r.2 w := by
  intro w hw δ y d'' hl
  obtain ⟨⟨w, dw⟩, hmem, rfl⟩ := List.mem_map.mp hw
  rcases dir_cases δ dw with rfl | rfl
  · exact (h.both w δ hmem).1 y d'' hl
  · exact (h.both w dw hmem).2 y d'' hl

structure BuildOK (avail : List Nat) (seed : Nat) (b : List Nat × List Nat) : Prop where
  sub : ∀ z, z ∈ b.2 ↔ z ∈ avail ∧ z ∉ b.1
  ids : ∀ z ∈ b.1, z ∈ avail
  seed_mem : seed ∈ b.1
  sealed : ∀ w ∈ b.1, ∀ δ y d'', link w δ = some (y, d'') → y ∈ b.1 ∨ y ∉ avail
  nodup : b.1.Nodup
  conn : ∀ z ∈ b.1, Conn link seed z

theorem mem_node {a b : List Nat} {s z : Nat} : z ∈ a.reverse ++ [s] ++ b ↔ z = s ∨ z ∈ a ∨ z ∈ b := by
  simp [List.mem_append, or_left_comm]

theorem forall_mem_node {a b : List Nat} {s : Nat} {P : Nat → Prop} (ha : ∀ z ∈ a, P z) (hs : P s) (hb : ∀ z ∈ b, P z) :
    ∀ z ∈ a.reverse ++ [s] ++ b, P z := by
  intro z hz
  rcases mem_node.mp hz with rfl | hz | hz
  · exact hs
  · exact ha z hz
  · exact hb z hz

/-- the node of two walks from `seed`: leftwards over `avail` without the seed, then rightwards over what that left -/
theorem BuildOK.of_walks {avail : List Nat} {seed : Nat} {l r : List (Nat × Dir) × List Nat} (hseed : seed ∈ avail)
    (wl : WalkOK link (rm avail seed) seed .L l) (wr : WalkOK link l.2 seed .R r) :
    BuildOK link avail seed ((l.1.map Prod.fst).reverse ++ [seed] ++ r.1.map Prod.fst, r.2) := by
  have h1 := not_mem_rm avail seed
  have sub : ∀ z, z ∈ r.2 ↔ z ∈ avail ∧ z ∉ (l.1.map Prod.fst).reverse ++ [seed] ++ r.1.map Prod.fst := fun z => by
    simp only [wr.sub z, wl.sub z, mem_rm, mem_node, not_or, ne_eq, and_assoc]
  -- what the right walk took, the left walk had left: available, not the seed, not on the left path
  have right : ∀ z ∈ r.1.map Prod.fst, z ∈ rm avail seed ∧ z ∉ l.1.map Prod.fst := fun z hz => (wl.sub z).mp (wr.ids z hz)
  refine ⟨sub, forall_mem_node (fun z hz => (mem_rm.mp (wl.ids z hz)).1) hseed fun z hz => (mem_rm.mp (right z hz).1).1,
    mem_node.mpr (.inl rfl), fun w hw δ y d'' hlk => Decidable.or_iff_not_imp_left.mpr fun hyn hya => ?_, ?_,
    forall_mem_node wl.conn (.refl _) wr.conn⟩
  · -- every member is sealed against what the right walk left: the left path was sealed against `l.2 ⊇ r.2`
    have hy : y ∈ r.2 := (sub y).mpr ⟨hya, hyn⟩
    have hyl : y ∈ l.2 := ((wr.sub y).mp hy).1
    rcases mem_node.mp hw with rfl | hw | hw
    · cases δ
      · exact wl.fwd y d'' hlk hyl
      · exact wr.fwd y d'' hlk hy
    · exact wl.sealed link w hw δ y d'' hlk hyl
    · exact wr.sealed link w hw δ y d'' hlk hy
  · rw [List.append_assoc, List.singleton_append]
    refine List.nodup_append.mpr ⟨nodup_reverse' wl.nodup, List.nodup_cons.mpr ⟨fun h => h1 (right seed h).1, wr.nodup⟩, ?_⟩
    rintro z hzl _ hzr rfl
    rcases List.mem_cons.mp hzr with rfl | hzr
    · exact h1 (wl.ids z (List.mem_reverse.mp hzl))
    · exact (right z hzr).2 (List.mem_reverse.mp hzl)

theorem build_ok (hs : Sym link) (avail : List Nat) (seed : Nat) (hseed : seed ∈ avail) :
    BuildOK link avail seed (build link avail seed) := by
  have wl := walk_ok link hs _ seed .L (not_mem_rm avail seed)
  exact .of_walks link hseed wl (walk_ok link hs _ seed .R fun h => not_mem_rm avail seed ((wl.sub _).mp h).1)

structure CompOK (avail is : List Nat) (ns : List (List Nat)) : Prop where
  ids : ∀ N ∈ ns, ∀ w ∈ N, w ∈ avail
  nodup : ns.flatten.Nodup
  sealed : ∀ N ∈ ns, ∀ w ∈ N, ∀ δ y d'', link w δ = some (y, d'') → y ∈ N ∨ y ∉ avail
  cover : ∀ z, z ∈ is → z ∈ avail → ∃ N ∈ ns, z ∈ N
  conn : ∀ N ∈ ns, ∀ x ∈ N, ∀ y ∈ N, Conn link x y

/-- a sealed node in front of a compression of what it left available -/
theorem CompOK.cons (hs : Sym link) {avail is : List Nat} {i : Nat} {b : List Nat × List Nat} {ns : List (List Nat)}
    (bo : BuildOK link avail i b) (ok : CompOK link b.2 is ns) : CompOK link avail (i :: is) (b.1 :: ns) := by
  have later : ∀ N ∈ ns, ∀ w ∈ N, w ∈ avail ∧ w ∉ b.1 := fun N hN w hw => (bo.sub w).mp (ok.ids N hN w hw)
  refine ⟨List.forall_mem_cons.mpr ⟨bo.ids, fun N hN w hw => (later N hN w hw).1⟩, ?_,
    List.forall_mem_cons.mpr ⟨bo.sealed, fun N hN w hw δ y d'' hl => ?_⟩, fun z hz hza => ?_,
    List.forall_mem_cons.mpr ⟨fun x hx y hy => ((bo.conn x hx).symm link hs).trans link (bo.conn y hy), ok.conn⟩⟩
  · rw [List.flatten_cons]
    refine List.nodup_append.mpr ⟨bo.nodup, ok.nodup, ?_⟩
    rintro a ha _ hc rfl
    obtain ⟨N, hN, haN⟩ := List.mem_flatten.mp hc
    exact (later N hN a haN).2 ha
  · refine (ok.sealed N hN w hw δ y d'' hl).imp_right fun hyb hya => ?_
    -- `y` is then in the first node, so the link read backwards leads out of that sealed node
    have hy : y ∈ b.1 := Decidable.byContradiction fun h => hyb ((bo.sub y).mpr ⟨hya, h⟩)
    exact (bo.sealed y hy _ _ _ (hs _ _ _ _ hl)).elim (later N hN w hw).2 fun h => h (later N hN w hw).1
  · by_cases hzb : z ∈ b.1
    · exact ⟨b.1, List.mem_cons_self, hzb⟩
    · rcases List.mem_cons.mp hz with rfl | hz
      · exact absurd bo.seed_mem hzb
      · obtain ⟨N, hN, hzN⟩ := ok.cover z hz ((bo.sub z).mpr ⟨hza, hzb⟩)
        exact ⟨N, List.mem_cons_of_mem _ hN, hzN⟩

theorem compress_ok (hs : Sym link) (is : List Nat) : ∀ avail, CompOK link avail is (compress link is avail) := by
  intro avail
  fun_induction compress link is avail with
  | case1 => exact ⟨by simp, by simp, by simp, by simp, by simp⟩
  | case2 i is avail hi b ih => exact .cons link hs (build_ok link hs avail i hi) ih
  | case3 i is avail hi ih =>
    refine ⟨ih.ids, ih.nodup, ih.sealed, fun z hz hza => ?_, ih.conn⟩
    rcases List.mem_cons.mp hz with rfl | hz
    · exact absurd hza hi
    · exact ih.cover z hz hza

/-- two ids lie in one node iff they are connected, when no link leaves `avail` -/
theorem CompOK.conn_iff {avail is : List Nat} {ns : List (List Nat)} (ok : CompOK link avail is ns)
    (hin : ∀ x d y d', link x d = some (y, d') → y ∈ avail) {x : Nat} (hx : x ∈ is) (hxa : x ∈ avail) (y : Nat) :
    Conn link x y ↔ ∃ N ∈ ns, x ∈ N ∧ y ∈ N := by
  refine ⟨fun hc => ?_, fun ⟨N, hN, hxN, hyN⟩ => ok.conn N hN x hxN y hyN⟩
  induction hc with
  | refl =>
    obtain ⟨N, hN, hxN⟩ := ok.cover x hx hxa
    exact ⟨N, hN, hxN, hxN⟩
  | step _ r ih =>
    obtain ⟨N, hN, hxN, hyN⟩ := ih
    obtain ⟨d, d', hl⟩ := r
    -- nodes are sealed, and a link cannot leave `avail`
    rcases ok.sealed N hN _ hyN d _ d' hl with h | h
    · exact ⟨N, hN, hxN, h⟩
    · exact absurd (hin _ _ _ _ hl) h

/-- C01/C02 for the abstract algorithm: the nodes partition `0..n-1` and are exactly the
    connected components of the (reciprocal) link relation. -/
theorem compress_components (hs : Sym link) (n : Nat)
    (hrange : ∀ x d y d', link x d = some (y, d') → y < n) :
    let ns := compress link (List.range n) (List.range n)
    ns.flatten.Nodup ∧ (∀ z, z ∈ ns.flatten ↔ z < n) ∧
    (∀ x y, x < n → (Conn link x y ↔ ∃ N ∈ ns, x ∈ N ∧ y ∈ N)) := by
  intro ns
  have ok := compress_ok link hs (List.range n) (List.range n)
  refine ⟨ok.nodup, fun z => ⟨fun hz => ?_, fun hz => ?_⟩, fun x y hx =>
    ok.conn_iff link (fun _ _ _ _ hl => List.mem_range.mpr (hrange _ _ _ _ hl)) (List.mem_range.mpr hx) (List.mem_range.mpr hx) y⟩
  · obtain ⟨N, hN, hzN⟩ := List.mem_flatten.mp hz
    exact List.mem_range.mp (ok.ids N hN z hzN)
  · exact List.mem_flatten.mpr (ok.cover z (List.mem_range.mpr hz) (List.mem_range.mpr hz))

end Walk
