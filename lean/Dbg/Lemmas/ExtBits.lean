import Dbg.Lemmas.SymProof
import Dbg.Model.Filter
/-! The extension byte read as a set of (side, base) pairs: `has`, and what union, `Exts::rc`, the byte made from two
    neighbours, `Exts::set` and `keepBits` do to that set. -/
namespace Filter
open Compress (Base Exts comp nibHas)
open Walk (Dir)

def bitIdx : Dir → Base → Nat
  | .L, b => b.val
  | .R, b => b.val + 4

def has (e : Exts) (d : Dir) (b : Base) : Prop := nibHas (e.dirBits d) b = true

theorem hasExt_iff (e : Exts) (d : Dir) (b : Base) : e.hasExt d b.val = true ↔ has e d b := by
  rw [Exts.hasExt_eq_testBit, has, Compress.nibHas_eq_testBit]

theorem has_iff (e : Exts) (d : Dir) (b : Base) : has e d b ↔ e.val.testBit (bitIdx d b) = true := by
  rw [has, Compress.nibHas_eq_testBit]
  cases d
  · rw [Exts.testBit_dirBits_L, decide_eq_true b.isLt, Bool.and_true]; rfl
  · rw [Exts.testBit_dirBits_R, Nat.add_comm]; rfl

theorem has_or (x y : Nat) (d : Dir) (b : Base) : has ⟨x ||| y⟩ d b ↔ has ⟨x⟩ d b ∨ has ⟨y⟩ d b := by
  simp only [has_iff, Nat.testBit_or, Bool.or_eq_true]

theorem has_zero (d : Dir) (b : Base) : ¬ has ⟨0⟩ d b := by
  rw [has_iff]; simp

/-- the union over the observations of a k-mer -/
theorem has_fold (obs : List (Exts × Nat)) (init : Nat) (d : Dir) (b : Base) :
    has ⟨obs.foldl (fun a o => a ||| o.1.val) init⟩ d b ↔ has ⟨init⟩ d b ∨ ∃ o ∈ obs, has o.1 d b := by
  induction obs generalizing init with
  | nil => simp
  | cons o t ih =>
    rw [List.foldl_cons, ih, has_or]
    constructor
    · rintro ((h | h) | ⟨o', ho', h⟩)
      · exact Or.inl h
      · exact Or.inr ⟨o, by simp, h⟩
      · exact Or.inr ⟨o', by simp [ho'], h⟩
    · rintro (h | ⟨o', ho', h⟩)
      · exact Or.inl (Or.inl h)
      · rcases List.mem_cons.mp ho' with rfl | ht
        · exact Or.inl (Or.inr h)
        · exact Or.inr ⟨o', ht, h⟩

theorem has_rc (e : Exts) (he : e.val < 256) (d : Dir) (b : Base) : has e.rc d b ↔ has e d.flip (comp b) := by
  rw [← hasExt_iff, ← hasExt_iff, Exts.rc_hasExt e he d b]; rfl

def mkE (lo ro : Option Base) : Exts :=
  Exts.merge ⟨match lo with | some b => 1 <<< b.val | none => 0⟩ ⟨match ro with | some b => 1 <<< (b.val + 4) | none => 0⟩

theorem mkE_table (lo ro : Option Base) (b : Base) :
    (nibHas ((mkE lo ro).dirBits .L) b = decide (lo = some b)) ∧ (nibHas ((mkE lo ro).dirBits .R) b = decide (ro = some b)) ∧
    (mkE lo ro).val < 256 := by
  cases lo with
  | none =>
    cases ro with
    | none => revert b; decide +kernel
    | some r => revert b r; decide +kernel
  | some l =>
    cases ro with
    | none => revert b l; decide +kernel
    | some r => revert b l r; decide +kernel

theorem has_mkE (lo ro : Option Base) (d : Dir) (b : Base) :
    has (mkE lo ro) d b ↔ (match d with | .L => lo | .R => ro) = some b := by
  obtain ⟨h1, h2, _⟩ := mkE_table lo ro b
  unfold has
  cases d with
  | L => rw [h1]; simp
  | R => rw [h2]; simp

def bitL (o : Option Base) : Nat := match o with | some b => 1 <<< b.val | none => 0
def bitR (o : Option Base) : Nat := match o with | some b => 1 <<< (b.val + 4) | none => 0

theorem merge_congr {l l' r r' : Exts} (hl : l.val &&& 15 = l'.val &&& 15) (hr : r.val &&& 240 = r'.val &&& 240) :
    Exts.merge l r = Exts.merge l' r' := by
  show (⟨(l.val &&& 15) ||| (r.val &&& 240)⟩ : Exts) = ⟨(l'.val &&& 15) ||| (r'.val &&& 240)⟩
  rw [hl, hr]

theorem has_set (acc : Exts) (d d' : Dir) (b b' : Base) :
    has (Graph.Exts.set acc d b.val) d' b' ↔ has acc d' b' ∨ (d' = d ∧ b' = b) := by
  rw [← hasExt_iff, ← hasExt_iff, Exts.set_hasExt acc d b d' b', Bool.or_eq_true, Bool.and_eq_true, decide_eq_true_eq,
    decide_eq_true_eq, eq_comm (a := d), eq_comm (a := b)]

theorem has_keepInner (e : Exts) (keep : Dir → Base → Bool) (d : Dir) (bs : List Base) (acc : Exts) (d' : Dir) (b' : Base) :
    has (bs.foldl (fun acc b => if e.hasExt d b.val ∧ keep d b then Graph.Exts.set acc d b.val else acc) acc) d' b' ↔
      has acc d' b' ∨ (d' = d ∧ b' ∈ bs ∧ has e d b' ∧ keep d b' = true) := by
  induction bs generalizing acc with
  | nil => simp
  | cons b t ih =>
    have step : has (if e.hasExt d b.val ∧ keep d b then Graph.Exts.set acc d b.val else acc) d' b' ↔
        has acc d' b' ∨ (d' = d ∧ b' = b ∧ has e d b ∧ keep d b = true) := by
      rw [← hasExt_iff e d b]
      split
      · next hc => rw [has_set]; exact or_congr_right ⟨fun h => ⟨h.1, h.2, hc⟩, fun h => ⟨h.1, h.2.1⟩⟩
      · next hc => exact ⟨Or.inl, fun h => h.elim id fun h => absurd h.2.2 hc⟩
    rw [List.foldl_cons, ih, step, List.mem_cons]
    constructor
    · rintro ((h | ⟨h1, rfl, h3⟩) | ⟨h1, h2, h3⟩)
      · exact Or.inl h
      · exact Or.inr ⟨h1, Or.inl rfl, h3⟩
      · exact Or.inr ⟨h1, Or.inr h2, h3⟩
    · rintro (h | ⟨h1, rfl | h2, h3⟩)
      · exact Or.inl (Or.inl h)
      · exact Or.inl (Or.inr ⟨h1, rfl, h3⟩)
      · exact Or.inr ⟨h1, h2, h3⟩

theorem has_keepBits (e : Exts) (keep : Dir → Base → Bool) (d : Dir) (b : Base) :
    has (keepBits e keep) d b ↔ has e d b ∧ keep d b = true := by
  unfold keepBits
  simp only [List.foldl_cons, List.foldl_nil]
  rw [has_keepInner, has_keepInner]
  have hmem : b ∈ Graph.base4 := by revert b; decide
  constructor
  · rintro ((h | ⟨hd, _, h⟩) | ⟨hd, _, h⟩)
    · exact absurd h (has_zero d b)
    · subst hd; exact h
    · subst hd; exact h
  · rintro ⟨h1, h2⟩
    cases d with
    | L => exact Or.inl (Or.inr ⟨rfl, hmem, h1, h2⟩)
    | R => exact Or.inr ⟨rfl, hmem, h1, h2⟩

theorem keepBits_lt (e : Exts) (keep : Dir → Base → Bool) : (keepBits e keep).val < 256 := by
  have hs : ∀ (acc : Exts) (d : Dir) (b : Nat), acc.val < 2 ^ 8 → (Graph.Exts.set acc d b).val < 2 ^ 8 := by
    intro acc d b h
    unfold Graph.Exts.set
    exact Nat.or_lt_two_pow h (Nat.mod_lt _ (by decide))
  have hin : ∀ (d : Dir) (bs : List Base) (acc : Exts), acc.val < 2 ^ 8 →
      (bs.foldl (fun acc b => if e.hasExt d b.val ∧ keep d b then Graph.Exts.set acc d b.val else acc) acc).val < 2 ^ 8 := by
    intro d bs
    induction bs with
    | nil => intro acc h; exact h
    | cons b t ih =>
      intro acc h
      rw [List.foldl_cons]
      apply ih
      split
      · exact hs _ _ _ h
      · exact h
  unfold keepBits
  simp only [List.foldl_cons, List.foldl_nil]
  exact hin _ _ _ (hin _ _ _ (by decide))

theorem fold_or_lt (obs : List (Exts × Nat)) (init : Nat) (hi : init < 2 ^ 8) (h : ∀ o ∈ obs, o.1.val < 2 ^ 8) :
    obs.foldl (fun a o => a ||| o.1.val) init < 2 ^ 8 := by
  induction obs generalizing init with
  | nil => exact hi
  | cons o t ih =>
    rw [List.foldl_cons]
    exact ih _ (Nat.or_lt_two_pow hi (h o (by simp))) (fun x hx => h x (by simp [hx]))

end Filter
