import Dbg.Model.Compress
/-! Reverse complement (`rc`, `comp`) and one-base extension on base strings `Seq = List (Fin 4)`. -/
namespace Compress

@[simp] theorem comp_comp (b : Base) : comp (comp b) = b := by
  apply Fin.ext; simp [comp]; omega

@[simp] theorem rc_rc (s : Seq) : rc (rc s) = s := by
  simp [rc, List.map_reverse, Function.comp_def]

@[simp] theorem rc_length (s : Seq) : (rc s).length = s.length := by simp [rc]

theorem rc_take (s : Seq) (n : Nat) : rc (s.take n) = (rc s).drop (s.length - n) := by
  unfold rc; rw [List.map_take, List.reverse_take, List.length_map]

theorem rc_drop (s : Seq) (n : Nat) : rc (s.drop n) = (rc s).take (s.length - n) := by
  unfold rc; rw [List.map_drop, List.reverse_drop, List.length_map]

theorem rc_extendRight (x : Seq) (b : Base) : rc (extendRight x b) = extendLeft (rc x) (comp b) := by
  unfold rc extendRight extendLeft
  cases x with
  | nil => simp
  | cons a t =>
    simp only [List.tail_cons, List.map_append, List.map_cons, List.map_nil, List.reverse_append,
      List.reverse_cons, List.reverse_nil, List.nil_append, List.singleton_append, List.cons.injEq, true_and]
    simp

theorem rc_extendLeft (x : Seq) (b : Base) : rc (extendLeft x b) = extendRight (rc x) (comp b) := by
  have := rc_extendRight (rc x) (comp b)
  rw [rc_rc, comp_comp] at this
  rw [← this, rc_rc]

theorem extendLeft_extendRight (x : Seq) (b : Base) (a : Base) (t : Seq) (hx : x = a :: t) :
    extendLeft (extendRight x b) a = x := by
  subst hx
  simp [extendLeft, extendRight]

theorem extendRight_extendLeft (x : Seq) (b : Base) (hx : x ≠ []) :
    extendRight (extendLeft x b) (x.getLast hx) = x := by
  simp only [extendLeft, extendRight, List.tail_cons]
  exact List.dropLast_concat_getLast hx

theorem extend_length (x : Seq) (b : Base) (d : Walk.Dir) (hx : x ≠ []) : (extend x b d).length = x.length := by
  cases d
  · simp only [extend, extendLeft, List.length_cons, List.length_dropLast]
    have : 0 < x.length := List.length_pos_iff.mpr hx
    omega
  · simp only [extend, extendRight, List.length_append, List.length_tail, List.length_cons, List.length_nil]
    have : 0 < x.length := List.length_pos_iff.mpr hx
    omega

end Compress
