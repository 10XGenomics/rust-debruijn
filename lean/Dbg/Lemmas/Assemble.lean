import Dbg.Lemmas.SymProof
import Dbg.Lemmas.ListWindow
import Dbg.Spec.C01
/-! String assembly of nodes: the k-mers of the sequence assembled by `build_node` are the oriented keys of the
    ids on the path (C01 at the level of sequences). -/
namespace Compress
open Walk (Dir)
variable {D : Type}

theorem orientR_eq_rc_orientL (e : Entry D) (d : Dir) : orientR e d = rc (orientL e d) := by
  cases d <;> simp [orientR, orientL]

theorem orientL_canonSt (st : Bool) (r : Seq) (e : Entry D) (hk : e.key = (canonSt st r).1) (d : Dir) :
    orientL e (condFlip d (canonSt st r).2) = match d with | .L => r | .R => rc r := by
  have hu : (if (canonSt st r).2 then rc e.key else e.key) = r := by
    rw [hk]
    unfold canonSt minRcFlip
    cases st
    · by_cases h : r < rc r <;> simp [h]
    · rfl
  cases d <;> cases hf : (canonSt st r).2 <;> simp [hf] at hu <;> simp [condFlip, Dir.flip, orientL, ← hu]

theorem link_stepL {T : Table D} {st : Bool} {join : D → D → Bool} {x y : Nat} {d d' : Dir}
    (h : linkOf T st join x d = some (y, d')) :
    ∃ ex ey b, T[x]? = some ex ∧ T[y]? = some ey ∧ orientL ey d' = extendLeft (orientL ex d) b ∧ (st = true → d' = d) := by
  obtain ⟨ex, ey, b, f⟩ := linkOf_inv T st join h
  obtain ⟨_, hy, hk⟩ := findId_some f.hfind
  rw [f.hy] at hy
  cases hy
  have ho := orientL_canonSt st _ ey hk d
  rw [← f.hd'] at ho
  have hst : st = true → d' = d := by rintro rfl; exact f.hd'
  cases d
  · exact ⟨ex, ey, b, f.hx, f.hy, ho, hst⟩
  · exact ⟨ex, ey, comp b, f.hx, f.hy, ho.trans (rc_extendRight ex.key b), hst⟩

theorem windowsOf_eq (K : Nat) (s : Seq) (h : K ≤ s.length) :
    windowsOf K s = (List.range (s.length - K + 1)).map fun i => (s.drop i).take K := by
  unfold windowsOf; simp [show ¬ s.length < K by omega]

theorem length_of_windowsOf_ne_nil {K : Nat} {s : Seq} (h : windowsOf K s ≠ []) : K ≤ s.length := by
  apply Nat.le_of_not_lt
  intro hlt
  exact h (if_pos hlt)

theorem windowsOf_short (K : Nat) (s : Seq) (h : s.length < K) : windowsOf K s = [] := if_pos h

theorem windowsOf_single (K : Nat) (s : Seq) (h : s.length = K) : windowsOf K s = [s] := by
  subst h
  rw [windowsOf_eq _ s (Nat.le_refl _), Nat.sub_self]
  exact congrArg (· :: []) (List.take_length ..)

theorem windowsOf_rc (K : Nat) (s : Seq) (h : K ≤ s.length) : windowsOf K (rc s) = ((windowsOf K s).map rc).reverse := by
  rw [windowsOf_eq K s h, windowsOf_eq K (rc s) (by rw [rc_length]; exact h), rc_length, List.map_map]
  exact List.map_reverse_windows comp s K h

theorem windowsOf_length (K : Nat) (s : Seq) (h : K ≤ s.length) : (windowsOf K s).length = s.length - K + 1 := by
  rw [windowsOf_eq K s h, List.length_map, List.length_range]

theorem windowsOf_getElem? (K : Nat) (s : Seq) (i : Nat) (h : K ≤ s.length) (hi : i < s.length - K + 1) :
    (windowsOf K s)[i]? = some ((s.drop i).take K) := by
  rw [windowsOf_eq K s h, List.getElem?_map, List.getElem?_range hi]; rfl

theorem windowsOf_cons (K : Nat) (b : Base) (s : Seq) (h : K ≤ s.length + 1) :
    windowsOf K (b :: s) = (b :: s).take K :: windowsOf K s := by
  by_cases hs : K ≤ s.length
  · rw [windowsOf_eq K (b :: s) h, windowsOf_eq K s hs,
      show (b :: s).length - K + 1 = (s.length - K + 1) + 1 by rw [List.length_cons]; omega, List.range_succ_eq_map]
    simp [Function.comp_def]
  · obtain rfl : K = (b :: s).length := by rw [List.length_cons]; omega
    rw [windowsOf_short _ s (Nat.lt_of_not_le hs), windowsOf_single _ _ rfl, List.take_length]

theorem take_append_take (p b : Seq) (n : Nat) : (p ++ b.take n).take n = (p ++ b).take n := by
  rw [List.take_append, List.take_append, List.take_take, Nat.min_eq_left (Nat.sub_le _ _)]

/-- k-mers of a sequence cut before a suffix `b` of at least `K` bases: those that start before the cut (they reach at
    most `K-1` bases into `b`), then those of `b` -/
theorem windowsOf_append (K : Nat) (p b : Seq) (hK : 1 ≤ K) (hb : K ≤ b.length) :
    windowsOf K (p ++ b) = windowsOf K (p ++ b.take (K - 1)) ++ windowsOf K b := by
  obtain ⟨k, rfl⟩ : ∃ k, K = k + 1 := ⟨K - 1, by omega⟩
  rw [Nat.add_sub_cancel]
  induction p with
  | nil => rw [List.nil_append, List.nil_append, windowsOf_short _ (b.take k) (by rw [List.length_take]; omega), List.nil_append]
  | cons x p ih =>
    rw [List.cons_append, List.cons_append, windowsOf_cons _ x _ (by rw [List.length_append]; omega),
      windowsOf_cons _ x _ (by rw [List.length_append, List.length_take]; omega), ih, List.cons_append,
      List.take_succ_cons, List.take_succ_cons, take_append_take]

theorem windowsOf_snoc (K : Nat) (b : Base) (s : Seq) (hK : 1 ≤ K) (h : K ≤ s.length) :
    windowsOf K (s ++ [b]) = windowsOf K s ++ [(s ++ [b]).drop (s.length + 1 - K)] := by
  rw [windowsOf, windowsOf, if_neg (by rw [List.length_append, List.length_singleton]; omega), if_neg (by omega),
    List.length_append, List.length_singleton, List.windows_snoc s b hK h]

theorem windowsOf_head_last (K : Nat) (s : Seq) (h : K ≤ s.length) :
    (windowsOf K s).head? = some (s.take K) ∧ (windowsOf K s).getLast? = some (s.drop (s.length - K)) := by
  rw [windowsOf_eq K s h]
  constructor
  · rw [List.head?_map, List.head?_range]; simp
  · rw [List.getLast?_map, List.getLast?_range]
    simp only [show s.length - K + 1 ≠ 0 by omega, if_false, Option.map_some, Nat.add_sub_cancel]
    congr 1
    apply List.take_of_length_le
    simp; omega

theorem take_cons_extendLeft (K : Nat) (b : Base) (s : Seq) (hK : 1 ≤ K) (h : K ≤ s.length) :
    (b :: s).take K = extendLeft (s.take K) b := by
  unfold extendLeft
  cases K with
  | zero => omega
  | succ k =>
    simp only [List.take_succ_cons, List.cons.injEq, true_and]
    apply List.ext_getElem
    · simp; omega
    · intro i h1 h2
      simp [List.getElem_dropLast]

def oL (T : Table D) (p : Nat × Dir) : Seq := match T[p.1]? with | some e => orientL e p.2 | none => []
def oR (T : Table D) (p : Nat × Dir) : Seq := match T[p.1]? with | some e => orientR e p.2 | none => []

def ChainL : Seq → List Seq → Prop
  | _, [] => True
  | o0, o :: rest => (∃ b, o = extendLeft o0 b) ∧ ChainL o rest
def ChainR : Seq → List Seq → Prop
  | _, [] => True
  | o0, o :: rest => (∃ b, o = extendRight o0 b) ∧ ChainR o rest

theorem extendLeft_length (o : Seq) (b : Base) (h : 1 ≤ o.length) : (extendLeft o b).length = o.length := by
  simp [extendLeft]; omega
theorem extendRight_length (o : Seq) (b : Base) (h : 1 ≤ o.length) : (extendRight o b).length = o.length := by
  simp [extendRight]; omega

/-- the payload `build_node` accumulates along a path -/
def pathData (T : Table D) (reduce : D → D → D) (path : List (Nat × Dir)) (d0 : D) : D :=
  path.foldl (fun a p => match T[p.1]? with | some e => reduce a e.data | none => a) d0

theorem leftFold_spec (T : Table D) (reduce : D → D → D) (K : Nat) (hK : 1 ≤ K) :
    ∀ (path : List (Nat × Dir)) (seq0 : Seq) (d0 : D) (o0 : Seq),
      K ≤ seq0.length → seq0.take K = o0 →
      (∀ p ∈ path, ∃ e, T[p.1]? = some e) →
      ChainL o0 (path.map (oL T)) →
      ∃ sq, leftFold T reduce path seq0 d0 = some (sq, pathData T reduce path d0) ∧
        windowsOf K sq = (path.map (oL T)).reverse ++ windowsOf K seq0 ∧ seq0 <:+ sq := by
  intro path
  induction path with
  | nil => intro seq0 d0 o0 _ _ _ _; exact ⟨seq0, rfl, by simp, List.suffix_refl _⟩
  | cons p rest ih =>
    intro seq0 d0 o0 hl ht hp hc
    obtain ⟨e, he⟩ := hp p (by simp)
    obtain ⟨⟨b, hb⟩, hc'⟩ := hc
    have hoL : oL T p = orientL e p.2 := by simp [oL, he]
    have hstep : leftFold T reduce (p :: rest) seq0 d0 = leftFold T reduce rest (b :: seq0) (reduce d0 e.data) := by
      have hh : (orientL e p.2).head? = some b := by rw [← hoL, hb]; rfl
      unfold leftFold
      rw [List.foldl_cons]
      simp only [leftStep, he, hh]
    have htake : (b :: seq0).take K = oL T p := by
      rw [take_cons_extendLeft K b seq0 hK hl, ht, hb]
    obtain ⟨sq, h1, h2, h3⟩ := ih (b :: seq0) (reduce d0 e.data) (oL T p) (by simp; omega) htake
      (fun q hq => hp q (by simp [hq])) hc'
    refine ⟨sq, ?_, ?_, (List.suffix_cons b seq0).trans h3⟩
    · rw [hstep, h1]; simp [pathData, he]
    · rw [h2, windowsOf_cons K b seq0 (Nat.le_succ_of_le hl), htake]
      simp

theorem oR_eq_rc_oL (T : Table D) (p : Nat × Dir) : oR T p = rc (oL T p) := by
  unfold oR oL
  cases T[p.1]? with
  | none => rfl
  | some e => exact orientR_eq_rc_orientL e p.2

/-- pushing the last base of `orientR` at the back is pushing the first base of `orientL` at the front of the reverse
    complement -/
theorem rightStep_rc (T : Table D) (reduce : D → D → D) (acc : Option (Seq × D)) (p : Nat × Dir) :
    rightStep T reduce (acc.map fun l => (rc l.1, l.2)) p = (leftStep T reduce acc p).map fun l => (rc l.1, l.2) := by
  unfold rightStep leftStep
  rcases acc with _ | ⟨sq, dat⟩
  · rfl
  · cases T[p.1]? with
    | none => rfl
    | some e =>
      simp only [Option.map_some, orientR_eq_rc_orientL]
      cases orientL e p.2 with
      | nil => rfl
      | cons b t => simp [rc]

theorem rightFold_eq_rc (T : Table D) (reduce : D → D → D) (path : List (Nat × Dir)) (seq0 : Seq) (d0 : D) :
    rightFold T reduce path seq0 d0 = (leftFold T reduce path (rc seq0) d0).map fun l => (rc l.1, l.2) := by
  have h : ∀ acc, path.foldl (rightStep T reduce) (acc.map fun l => (rc l.1, l.2)) =
      (path.foldl (leftStep T reduce) acc).map fun l => (rc l.1, l.2) := by
    induction path with
    | nil => intro acc; rfl
    | cons p rest ih => intro acc; rw [List.foldl_cons, List.foldl_cons, rightStep_rc, ih]
  have h0 := h (some (rc seq0, d0))
  rwa [Option.map_some, rc_rc] at h0

theorem rightFold_spec (T : Table D) (reduce : D → D → D) (K : Nat) (hK : 1 ≤ K) (path : List (Nat × Dir)) (seq0 : Seq) (d0 : D)
    (o0 : Seq) (hl : K ≤ seq0.length) (ht : seq0.drop (seq0.length - K) = o0) (hp : ∀ p ∈ path, ∃ e, T[p.1]? = some e)
    (hc : ChainL (rc o0) (path.map (oL T))) :
    ∃ sq, rightFold T reduce path seq0 d0 = some (sq, pathData T reduce path d0) ∧
      windowsOf K sq = windowsOf K seq0 ++ path.map (oR T) := by
  have hl' : K ≤ (rc seq0).length := by rwa [rc_length]
  obtain ⟨sq, h1, h2, h3⟩ := leftFold_spec T reduce K hK path (rc seq0) d0 (rc o0) hl'
    (by rw [← ht, rc_drop, Nat.sub_sub_self hl]) hp hc
  refine ⟨rc sq, by rw [rightFold_eq_rc, h1]; rfl, ?_⟩
  rw [windowsOf_rc K sq (Nat.le_trans hl' h3.length_le), h2, List.map_append, List.reverse_append, ← windowsOf_rc K _ hl', rc_rc,
    List.map_reverse, List.reverse_reverse, List.map_map]
  exact congrArg _ (List.map_congr_left fun p _ => (oR_eq_rc_oL T p).symm)

theorem walk_chainL (T : Table D) (st : Bool) (join : D → D → Bool) (avail : List Nat) (x : Nat) (d : Dir) :
    ∀ ex, T[x]? = some ex →
      ChainL (orientL ex d) ((Walk.walk (linkOf T st join) avail x d).1.map (oL T)) ∧
      (∀ p ∈ (Walk.walk (linkOf T st join) avail x d).1, ∃ e, T[p.1]? = some e) ∧
      (st = true → ∀ p ∈ (Walk.walk (linkOf T st join) avail x d).1, p.2 = d) := by
  fun_induction Walk.walk (linkOf T st join) avail x d with
  | case1 avail x d y d' hl hy r ih =>
    intro ex hx
    obtain ⟨ex', ey, b, hx', hyy, ho, hs⟩ := link_stepL hl
    have : ex' = ex := by rw [hx] at hx'; exact (Option.some.inj hx').symm
    subst this
    obtain ⟨c1, c2, c3⟩ := ih ey hyy
    refine ⟨?_, ?_, ?_⟩
    · simp only [List.map_cons, ChainL]
      refine ⟨⟨b, by simp [oL, hyy, ho]⟩, ?_⟩
      simpa [oL, hyy] using c1
    · intro p hp
      rcases List.mem_cons.mp hp with rfl | hp
      · exact ⟨ey, hyy⟩
      · exact c2 p hp
    · intro hst p hp
      have hdd := hs hst
      rcases List.mem_cons.mp hp with rfl | hp
      · exact hdd
      · rw [c3 hst p hp, hdd]
  | case2 avail x d y d' hl hy => intro ex _; exact ⟨by simp [ChainL], by simp, by simp⟩
  | case3 avail x d hl => intro ex _; exact ⟨by simp [ChainL], by simp, by simp⟩

theorem ChainL.rc : ∀ {o0 : Seq} {os : List Seq}, ChainL o0 os → ChainR (rc o0) (os.map rc)
  | _, [], _ => trivial
  | _, _ :: _, ⟨⟨b, hb⟩, h⟩ => ⟨⟨comp b, by rw [hb, rc_extendLeft]⟩, h.rc⟩

theorem walk_chainR (T : Table D) (st : Bool) (join : D → D → Bool) (avail : List Nat) (x : Nat) (d : Dir) :
    ∀ ex, T[x]? = some ex →
      ChainR (orientR ex d) ((Walk.walk (linkOf T st join) avail x d).1.map (oR T)) := by
  intro ex hx
  have h := (walk_chainL T st join avail x d ex hx).1.rc
  rwa [List.map_map, ← orientR_eq_rc_orientL, show rc ∘ oL T = oR T from funext fun p => (oR_eq_rc_oL T p).symm] at h

theorem rm_of_not_mem (a : List Nat) (y : Nat) (h : y ∉ a) : Walk.rm a y = a := by
  unfold Walk.rm
  apply List.filter_eq_self.mpr
  intro z hz
  simp only [bne_iff_ne, ne_eq]
  rintro rfl; exact h hz

theorem walk_avail_sub (link : Walk.Link) : ∀ (a : List Nat) (x : Nat) (d : Dir) (z : Nat), z ∈ (Walk.walk link a x d).2 → z ∈ a := by
  intro a x d
  fun_induction Walk.walk link a x d with
  | case1 a x d y d' hl hy r ih => intro z hz; exact (Walk.mem_rm.mp (ih z hz)).1
  | case2 a x d y d' hl hy => intro z hz; exact hz
  | case3 a x d hl => intro z hz; exact hz

/-- the canonical form of an oriented key is the key (keys are canonical; in stranded mode walks never flip) -/
theorem canon_orientL (st : Bool) (e : Entry D) (d : Dir) (hc : st = false → ¬ (rc e.key < e.key)) (hd : st = true → d = .L) :
    (canonOf st (orientL e d)).1 = e.key := by
  cases st with
  | true => simp [canonOf, orientL, hd rfl]
  | false =>
    have hc := hc rfl
    cases d with
    | L =>
      simp only [canonOf, Bool.false_eq_true, if_false, orientL, minRcFlip]
      by_cases h : e.key < rc e.key
      · simp [h]
      · simp only [h, if_false]
        rcases Std.lt_trichotomy e.key (rc e.key) with h' | h' | h'
        · exact absurd h' h
        · exact h'.symm
        · exact absurd h' hc
    | R =>
      simp only [canonOf, Bool.false_eq_true, if_false, orientL, minRcFlip, rc_rc]
      simp [hc]

def keyOf (T : Table D) (i : Nat) : Seq := match T[i]? with | some e => e.key | none => []

theorem keyOf_inj {U : Table D} {K : Nat} {st : Bool} (wf : WF U K st) (a b : Nat) (ha : a < U.length) (hb : b < U.length)
    (h : keyOf U a = keyOf U b) : a = b := by
  unfold keyOf at h
  rw [List.getElem?_eq_getElem ha, List.getElem?_eq_getElem hb] at h
  exact wf.distinct a b U[a] U[b] (List.getElem?_eq_getElem ha) (List.getElem?_eq_getElem hb) h

theorem oR_eq_oL_flip (T : Table D) (p : Nat × Dir) : oR T p = oL T (p.1, p.2.flip) := by
  obtain ⟨i, d⟩ := p
  cases d <;> rfl

theorem canon_oL {T : Table D} {K : Nat} {st : Bool} (wf : WF T K st) (p : Nat × Dir) (hp : ∃ e, T[p.1]? = some e)
    (hd : st = true → p.2 = .L) : (canonOf st (oL T p)).1 = keyOf T p.1 := by
  obtain ⟨e, he⟩ := hp
  simp only [oL, keyOf, he]
  exact canon_orientL st e p.2 (fun h => wf.canon h p.1 e he) hd

/-- the two walks of `build_node` -/
def leftW (T : Table D) (st : Bool) (join : D → D → Bool) (avail : List Nat) (seed : Nat) : List (Nat × Dir) × List Nat :=
  Walk.walk (linkOf T st join) (Walk.rm avail seed) seed .L
def rightW (T : Table D) (st : Bool) (join : D → D → Bool) (avail : List Nat) (seed : Nat) : List (Nat × Dir) × List Nat :=
  Walk.walk (linkOf T st join) (leftW T st join avail seed).2 seed .R

/-- the two ports of a node: where the left walk and the right walk stopped -/
def leftPort (T : Table D) (st : Bool) (join : D → D → Bool) (avail : List Nat) (seed : Nat) : Nat × Dir :=
  lastPort (leftW T st join avail seed).1 seed .L
def rightPort (T : Table D) (st : Bool) (join : D → D → Bool) (avail : List Nat) (seed : Nat) : Nat × Dir :=
  lastPort (rightW T st join avail seed).1 seed .R

theorem build_eq (T : Table D) (st : Bool) (join : D → D → Bool) (avail : List Nat) (seed : Nat) :
    Walk.build (linkOf T st join) avail seed =
      (((leftW T st join avail seed).1.map Prod.fst).reverse ++ [seed] ++ (rightW T st join avail seed).1.map Prod.fst,
        (rightW T st join avail seed).2) := rfl

/-- what `build_node` hands to `from_single_dirs` for the walk that stopped at port `p`: the extension set of the k-mer
    there on the side the walk was leaving it, complemented when the k-mer lies reverse-complemented in the node
    (`rcDir` is the direction in which that is the case: `Right` on the left path, `Left` on the right path) -/
def portExts (T : Table D) (st : Bool) (join : D → D → Bool) (p : Nat × Dir) (rcDir : Dir) : Exts :=
  if p.2 = rcDir then (staticStep T st join p.1 p.2).exts.complement else (staticStep T st join p.1 p.2).exts

/-- **`build_node` without a panic**, as one equation: the two code-shaped walks are the abstract ones, the second `rm` of
    the seed is void, and the extension byte is assembled from the two ports. -/
theorem buildNodeC_eq {T : Table D} {st : Bool} {join : D → D → Bool} (reduce : D → D → D) (hnp : NoPanic T st join)
    (avail : List Nat) (seed : Nat) (es : Entry D) (hseed : T[seed]? = some es) :
    buildNodeC T st join reduce avail seed =
      (leftFold T reduce (leftW T st join avail seed).1 es.key es.data).bind fun l =>
        (rightFold T reduce (rightW T st join avail seed).1 l.1 l.2).map fun r =>
          (⟨r.1, Exts.fromSingleDirs (portExts T st join (leftPort T st join avail seed) .R)
              (portExts T st join (rightPort T st join avail seed) .L), r.2⟩,
            (Walk.build (linkOf T st join) avail seed).1, (Walk.build (linkOf T st join) avail seed).2) := by
  have hl : walkC T st join (Walk.rm avail seed) seed .L = some ((leftW T st join avail seed).1,
      (staticStep T st join (leftPort T st join avail seed).1 (leftPort T st join avail seed).2).exts,
      (leftW T st join avail seed).2) := walkC_eq T st join hnp _ seed .L
  have hnot : seed ∉ (leftW T st join avail seed).2 := fun h =>
    (Walk.mem_rm.mp (walk_avail_sub _ _ _ _ seed h)).2 rfl
  have hr : walkC T st join (leftW T st join avail seed).2 seed .R = some ((rightW T st join avail seed).1,
      (staticStep T st join (rightPort T st join avail seed).1 (rightPort T st join avail seed).2).exts,
      (rightW T st join avail seed).2) := walkC_eq T st join hnp _ seed .R
  unfold buildNodeC
  simp only [hseed, hl]
  cases leftFold T reduce (leftW T st join avail seed).1 es.key es.data with
  | none => rfl
  | some l =>
    simp only [rm_of_not_mem _ _ hnot, hr, Option.bind_some]
    cases rightFold T reduce (rightW T st join avail seed).1 l.1 l.2 with
    | none => rfl
    | some r =>
      simp only [Option.map_some, build_eq]
      unfold portExts leftPort rightPort lastPort
      cases (leftW T st join avail seed).1.getLast? with
      | none => cases (rightW T st join avail seed).1.getLast? with
        | none => rfl
        | some q => obtain ⟨_, dq⟩ := q; cases dq <;> rfl
      | some p =>
        obtain ⟨_, dp⟩ := p
        cases (rightW T st join avail seed).1.getLast? with
        | none => cases dp <;> rfl
        | some q => obtain ⟨_, dq⟩ := q; cases dp <;> cases dq <;> rfl

theorem buildNodeC_exts_eq {T : Table D} {st : Bool} {join : D → D → Bool} (reduce : D → D → D) (hnp : NoPanic T st join)
    (avail : List Nat) (seed : Nat) (es : Entry D) (hseed : T[seed]? = some es) {nd : Node D} {ids a' : List Nat}
    (hb : buildNodeC T st join reduce avail seed = some (nd, ids, a')) :
    nd.exts = Exts.fromSingleDirs (portExts T st join (leftPort T st join avail seed) .R)
      (portExts T st join (rightPort T st join avail seed) .L) := by
  rw [buildNodeC_eq reduce hnp avail seed es hseed] at hb
  cases hl : leftFold T reduce (leftW T st join avail seed).1 es.key es.data with
  | none => rw [hl] at hb; cases hb
  | some l =>
    rw [hl, Option.bind_some] at hb
    cases hr : rightFold T reduce (rightW T st join avail seed).1 l.1 l.2 with
    | none => rw [hr] at hb; cases hb
    | some r => rw [hr] at hb; cases hb; rfl

section
variable {T : Table D} {K : Nat} {st : Bool} {join : D → D → Bool} (reduce : D → D → D) (wf : WF T K st) (hes : ExtSym T st)
include wf hes

/-- **`build_node` on a reciprocal table**: it never panics, consumes exactly the ids of the abstract `build`, and the
    k-mers of the assembled sequence are the oriented keys of the left path (reversed), the seed, and the right path. -/
theorem buildNodeC_spec (avail : List Nat) (seed : Nat) (es : Entry D)
    (hseed : T[seed]? = some es) :
    ∃ nd, buildNodeC T st join reduce avail seed =
        some (nd, (Walk.build (linkOf T st join) avail seed).1, (Walk.build (linkOf T st join) avail seed).2) ∧
      windowsOf K nd.seq = ((leftW T st join avail seed).1.map (oL T)).reverse ++ [es.key] ++ (rightW T st join avail seed).1.map (oR T) ∧
      nd.data = ((leftW T st join avail seed).1 ++ (rightW T st join avail seed).1).foldl
        (fun a p => match T[p.1]? with | some e => reduce a e.data | none => a) es.data := by
  have hK := wf.kpos
  have hlen := wf.len seed es hseed
  obtain ⟨cl1, cl2, _⟩ := walk_chainL T st join (Walk.rm avail seed) seed .L es hseed
  obtain ⟨cr1, cr2, _⟩ := walk_chainL T st join (leftW T st join avail seed).2 seed .R es hseed
  obtain ⟨sqL, f1, f2, f3⟩ := leftFold_spec T reduce K hK (leftW T st join avail seed).1 es.key es.data es.key
    (by omega) (List.take_of_length_le (by omega)) cl2 cl1
  -- the assembled left part still ends with the seed k-mer
  have hend : sqL.drop (sqL.length - K) = es.key := by rw [← hlen]; exact (List.suffix_iff_eq_drop.mp f3).symm
  obtain ⟨sqR, g1, g2⟩ := rightFold_spec T reduce K hK (rightW T st join avail seed).1 sqL _ es.key
    (hlen ▸ f3.length_le) hend cr2 cr1
  refine ⟨_, by rw [buildNodeC_eq reduce (noPanic wf hes) avail seed es hseed, f1, Option.bind_some, g1]; rfl, ?_, ?_⟩
  · show windowsOf K sqR = _
    rw [g2, f2, windowsOf_eq K es.key (by omega), hlen, Nat.sub_self]
    simp [List.take_of_length_le (Nat.le_of_eq hlen)]
  · exact (List.foldl_append ..).symm

theorem buildNodeC_canon (avail : List Nat) (seed : Nat) (es : Entry D)
    (hseed : T[seed]? = some es) :
    ∃ nd, buildNodeC T st join reduce avail seed =
        some (nd, (Walk.build (linkOf T st join) avail seed).1, (Walk.build (linkOf T st join) avail seed).2) ∧
      (windowsOf K nd.seq).map (fun w => (canonOf st w).1) = (Walk.build (linkOf T st join) avail seed).1.map (keyOf T) ∧
      K ≤ nd.seq.length := by
  obtain ⟨nd, h1, h2, _⟩ := buildNodeC_spec (join := join) reduce wf hes avail seed es hseed
  have hlenK : K ≤ nd.seq.length := length_of_windowsOf_ne_nil (by rw [h2]; simp)
  refine ⟨nd, h1, ?_, hlenK⟩
  rw [h2]
  have hL := walk_chainL T st join (Walk.rm avail seed) seed .L es hseed
  have hR := walk_chainL T st join (leftW T st join avail seed).2 seed .R es hseed
  rw [build_eq]
  simp only [List.map_append, List.map_reverse, List.map_map, List.map_cons, List.map_nil]
  congr 1
  · congr 1
    · congr 1
      exact List.map_congr_left fun p hp => canon_oL wf p (hL.2.1 p hp) (fun h => hL.2.2 h p hp)
    · simpa [oL, orientL, hseed] using canon_oL wf (seed, .L) ⟨es, hseed⟩ (fun _ => rfl)
  · refine List.map_congr_left fun p hp => ?_
    rw [Function.comp_apply, oR_eq_oL_flip]
    exact canon_oL wf (p.1, p.2.flip) (hR.2.1 p hp) (fun h => by rw [show p.2 = .R from hR.2.2 h p hp]; rfl)

theorem compressLoopC_spec :
    ∀ (is avail : List Nat), (∀ i ∈ is, i < T.length) →
      ∃ out, compressLoopC T st join reduce is avail = some out ∧
        out.map (·.2) = Walk.compress (linkOf T st join) is avail ∧
        ∀ x ∈ out, (windowsOf K x.1.seq).map (fun w => (canonOf st w).1) = x.2.map (keyOf T) ∧ K ≤ x.1.seq.length := by
  intro is
  induction is with
  | nil => intro avail _; exact ⟨[], rfl, rfl, by simp⟩
  | cons i is ih =>
    intro avail hr
    have hi : i < T.length := hr i (by simp)
    have hrest : ∀ j ∈ is, j < T.length := fun j hj => hr j (by simp [hj])
    by_cases hmem : i ∈ avail
    · obtain ⟨nd, hb, hc, hk⟩ := buildNodeC_canon (join := join) reduce wf hes avail i T[i] (by simp [hi])
      obtain ⟨out, ho, hm, hw⟩ := ih (Walk.build (linkOf T st join) avail i).2 hrest
      refine ⟨(nd, (Walk.build (linkOf T st join) avail i).1) :: out, ?_, ?_, ?_⟩
      · simp only [compressLoopC, hmem, if_true, hb, ho]
      · simp only [Walk.compress, hmem, if_true, List.map_cons, hm]
      · intro x hx
        rcases List.mem_cons.mp hx with rfl | hx
        · exact ⟨hc, hk⟩
        · exact hw x hx
    · obtain ⟨out, ho, hm, hw⟩ := ih avail hrest
      exact ⟨out, by simp only [compressLoopC, hmem, if_false, ho], by simp only [Walk.compress, hmem, if_false, hm], hw⟩

/-- what `compress_kmers` returned: the canonical k-mers of each node are the keys of its ids, and the id lists
    partition the table -/
theorem compressKmersC_spec (hj : ∀ a b, join a b = join b a) (out : List (Node D × List Nat))
    (ho : compressKmersC T st join reduce = some out) :
    (∀ x ∈ out, (windowsOf K x.1.seq).map (fun w => (canonOf st w).1) = x.2.map (keyOf T) ∧ K ≤ x.1.seq.length) ∧
    (out.map (·.2)).flatten.Nodup ∧ ∀ z, z ∈ (out.map (·.2)).flatten ↔ z < T.length := by
  obtain ⟨out', ho', hm, hw⟩ := compressLoopC_spec (join := join) reduce wf hes (List.range T.length) (List.range T.length)
    (fun i hi => List.mem_range.mp hi)
  cases ho.symm.trans ho'
  obtain ⟨hnd, hcov, _⟩ := compress_components_concrete wf hes hj
  rw [← hm] at hnd hcov
  exact ⟨hw, hnd, hcov⟩

/-- **C01 at the level of sequences.** On every well-formed table with reciprocal extensions and a symmetric join
    predicate, `compress_kmers` does not panic and the canonical k-mers of all node sequences together are a permutation
    of the table's keys: every input k-mer occurs in exactly one node at exactly one offset, and no node contains a
    k-mer that was not in the table. -/
theorem compressKmersC_partition (hj : ∀ a b, join a b = join b a) :
    ∃ out, compressKmersC T st join reduce = some out ∧
      (out.flatMap fun x => (windowsOf K x.1.seq).map (fun w => (canonOf st w).1)).Perm (T.map (·.key)) ∧
      ∀ x ∈ out, K ≤ x.1.seq.length := by
  obtain ⟨out, ho, hm, hw⟩ := compressLoopC_spec (join := join) reduce wf hes (List.range T.length) (List.range T.length)
    (fun i hi => List.mem_range.mp hi)
  obtain ⟨hnd, hcov, _⟩ := compress_components_concrete wf hes hj
  refine ⟨out, ho, ?_, ?_⟩
  · have e1 : (out.flatMap fun x => (windowsOf K x.1.seq).map (fun w => (canonOf st w).1)) =
        ((out.map (·.2)).flatten).map (keyOf T) := by
      rw [List.map_flatten, List.map_map, List.flatMap_def]
      congr 1
      apply List.map_congr_left
      intro x hx; exact (hw x hx).1
    rw [e1, hm]
    have hperm : (Walk.compress (linkOf T st join) (List.range T.length) (List.range T.length)).flatten.Perm (List.range T.length) := by
      apply (List.perm_ext_iff_of_nodup hnd List.nodup_range).mpr
      intro a; rw [hcov a, List.mem_range]
    have e2 : (List.range T.length).map (keyOf T) = T.map (·.key) := by
      apply List.ext_getElem
      · simp
      · intro i h1 h2
        simp only [List.length_map, List.length_range] at h1
        simp [keyOf, h1]
    rw [← e2]
    exact hperm.map _
  · intro x hx
    exact (hw x hx).2

end

end Compress
