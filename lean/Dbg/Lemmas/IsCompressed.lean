import Dbg.Lemmas.Recompress
import Dbg.Lemmas.Beam
/-! `is_compressed`: on a ported graph over a closed table in which no good link joins the end ports of two different
    nodes, the crate's own maximality check finds nothing to merge. -/
namespace Compress
open Walk (Dir)
open Filter (has ExtSym2)
open Graph (G findLink findEdges termKmer isCompressedAt isCompressed palSingle base4)
variable {D : Type}

theorem filter_has_length : ∀ n : Fin 16, (base4.filter (fun b => nibHas n.val b)).length = nibCnt n.val := by decide

theorem isCompressedAt_some (g : G D) (join : D → D → Bool) (i : Nat) (d : Dir) (r : Nat × Nat)
    (h : isCompressedAt g join i d = some r) :
    ∃ (n nx : Node D) (e e2 : Nat × Dir × Bool), g.nodes[i]? = some n ∧ findEdges g i d = some [e] ∧ g.nodes[e.1]? = some nx ∧
      findEdges g e.1 e.2.1 = some [e2] ∧ palSingle g n = false ∧ palSingle g nx = false ∧ i ≠ e.1 ∧ join n.data nx.data = true := by
  unfold isCompressedAt at h
  split at h
  case h_2 => cases h
  case h_1 n e hn he =>
    split at h
    case h_2 => cases h
    case h_1 nx e2 hnx he2 =>
      split at h
      case isTrue => cases h
      case isFalse hskip =>
        split at h
        case isFalse => cases h
        case isTrue hj =>
          rw [Bool.or_eq_true, Bool.or_eq_true, not_or, not_or, Bool.not_eq_true, Bool.not_eq_true, beq_iff_eq] at hskip
          exact ⟨n, nx, e, e2, hn, he, hnx, he2, hskip.1.1, hskip.1.2, hskip.2, hj⟩

theorem palSingle_of_palNode (g : G D) (y : Nat) (n : Node D) (hy : g.nodes[y]? = some n) (hp : Graph.PalNode g y) :
    palSingle g n = true := by
  obtain ⟨n', hn', _, hlen, hrc⟩ := hp
  rw [hy] at hn'; cases hn'
  unfold palSingle
  rw [← hlen, List.take_length, isPal_of_rc _ hrc, beq_self_eq_true]; rfl

section
variable {T : Table D} {K : Nat} {st : Bool} {join0 : D → D → Bool} {nodes : List (Node D)}
  {port : Nat → Dir → Nat × Dir} {members : Nat → List Nat} {lk : Walk.Link}
  (pg : PGraph T K st join0 nodes port members lk) (wf : WF T K st) (hes2 : ExtSym2 T st) (hcl : Closed T st)
  (hx8 : ∀ (i : Nat) (n : Node D), nodes[i]? = some n → n.exts.val < 256)
include pg wf hes2 hcl hx8

theorem PGraph.findEdges_spec (i : Nat) (n : Node D) (hi : nodes[i]? = some n) (d : Dir) (es : List (Nat × Dir × Bool))
    (he : findEdges (⟨K, nodes, st⟩ : G D) i d = some es) :
    es.length = n.exts.numExtDir d ∧
      ∀ e ∈ es, ∃ b, has n.exts d b ∧ findLink (⟨K, nodes, st⟩ : G D) (extend (termKmer K n.seq d) b d) d = some e := by
  unfold findEdges at he
  have hi' : (⟨K, nodes, st⟩ : G D).nodes[i]? = some n := hi
  rw [hi'] at he
  simp only [Option.some.injEq, ← List.filterMap_filter] at he
  subst he
  have hext : ∀ b ∈ base4.filter (fun b => n.exts.hasExt d b.val), has n.exts d b :=
    fun b hb => (Filter.hasExt_iff n.exts d b).mp (List.mem_filter.mp hb).2
  constructor
  · -- every extension of a node over a closed table resolves to a link
    rw [List.filterMap_length_eq_length.mpr fun b hb => by
      rw [pg.edge_iff wf hes2 i n hi d b (hext b hb)]
      obtain ⟨ex, np⟩ := pg.np i n d hi
      obtain ⟨y, hy⟩ := hcl _ ex _ _ np.ent ((np.exts b).mp (hext b hb))
      rw [(node_target n d (port i d) ex np b).2]
      exact mem_keys_of_findId hy]
    rw [numExtDir_eq, ← filter_has_length ⟨n.exts.dirBits d, dirBits_lt _ (hx8 i n hi) d⟩]
    exact congrArg List.length (List.filter_congr fun b _ => Bool.eq_iff_iff.mpr (Filter.hasExt_iff n.exts d b))
  · intro e hem
    obtain ⟨b, hb, hfl⟩ := List.mem_filterMap.mp hem
    exact ⟨b, hext b hb, hfl⟩

theorem PGraph.isCompressedAt_link (i : Nat) (d : Dir) (r : Nat × Nat)
    (h : isCompressedAt (⟨K, nodes, st⟩ : G D) (fun _ _ => true) i d = some r) :
    ∃ (j : Nat) (o : Dir), j < nodes.length ∧ i < nodes.length ∧ i ≠ j ∧
      linkOf T st (fun _ _ => true) (port i d).1 (port i d).2 = some ((port j o.flip).1, (port j o.flip).2.flip) := by
  obtain ⟨n, nn, e, e2, hn, he, hnx, he2, hp1, hp2, hne, _⟩ := isCompressedAt_some _ _ i d r h
  have hilt : i < nodes.length := (List.getElem?_eq_some_iff.mp hn).1
  have hjlt : e.1 < nodes.length := (List.getElem?_eq_some_iff.mp hnx).1
  -- the single edge is the link of the single extension, on both sides
  obtain ⟨hl1, hm1⟩ := pg.findEdges_spec wf hes2 hcl hx8 i n hn d [e] he
  obtain ⟨hl2, _⟩ := pg.findEdges_spec wf hes2 hcl hx8 e.1 nn hnx e.2.1 [e2] he2
  obtain ⟨b, hb, hfl⟩ := hm1 e (List.mem_singleton_self e)
  have hsp : (!st && n.seq.length == K && isPalindrome (n.seq.take K)) = false := by
    have hp1' : (n.seq.length == K && isPalindrome (n.seq.take K)) = false := hp1
    rw [Bool.and_assoc, hp1', Bool.and_false]
  -- the entered k-mer is not a palindrome: otherwise its node is a palindromic single-k-mer node
  have hnpal : (!st && isPalindrome (extend (termKmer K n.seq d) b d)) = false := by
    rw [Bool.eq_false_iff]
    intro hpal
    have := palSingle_of_palNode _ e.1 nn hnx ((CompressGraph.pal_link_iff (⟨K, nodes, st⟩ : G D)
      (fun i n s hst hi hrc => pg.palEnd i n s hst hi hrc) st rfl _ d e.1 e.2.1 e.2.2 hfl).mp hpal)
    rw [this] at hp2; cases hp2
  have hg := glinkV_of_findLink (⟨K, nodes, st⟩ : G D) st (fun _ _ => true) i d n nn b e.1 e.2.1 e.2.2 hn (hx8 i n hn)
    hl1.symm hb hsp hfl hnx hl2.symm hnpal rfl
  exact ⟨e.1, e.2.1.flip, hjlt, hilt, hne, pg.glink_to_link wf hes2 hcl hx8 (fun _ _ => true) (fun _ _ => true)
    (fun _ _ _ _ _ _ _ _ _ _ _ _ => rfl) (List.range nodes.length) i d e.1 e.2.1.flip hg⟩

end

theorem PGraph.isCompressed_none {T : Table D} {K : Nat} {st : Bool} {join0 : D → D → Bool} {nodes : List (Node D)}
    {port : Nat → Dir → Nat × Dir} {members : Nat → List Nat} {lk : Walk.Link}
    (pg : PGraph T K st join0 nodes port members lk) (wf : WF T K st) (hes2 : ExtSym2 T st) (hcl : Closed T st)
    (hx8 : ∀ (i : Nat) (n : Node D), nodes[i]? = some n → n.exts.val < 256)
    (hsealed : ∀ (i j : Nat) (d o : Dir), i < nodes.length → j < nodes.length →
      linkOf T st (fun _ _ => true) (port i d).1 (port i d).2 = some ((port j o).1, (port j o).2.flip) → i = j) :
    isCompressed (⟨K, nodes, st⟩ : G D) (fun _ _ => true) = none := by
  unfold isCompressed
  rw [List.findSome?_eq_none_iff]
  intro i _
  rw [List.findSome?_eq_none_iff]
  intro d _
  cases h : isCompressedAt (⟨K, nodes, st⟩ : G D) (fun _ _ => true) i d with
  | none => rfl
  | some r =>
    exfalso
    obtain ⟨j, o, hj, hi, hne, hl⟩ := pg.isCompressedAt_link wf hes2 hcl hx8 i d r h
    exact hne (hsealed i j d o.flip hi hj hl)

theorem PGraph.resolving {T : Table D} {K : Nat} {st : Bool} {join0 : D → D → Bool} {nodes : List (Node D)}
    {port : Nat → Dir → Nat × Dir} {members : Nat → List Nat} {lk : Walk.Link}
    (pg : PGraph T K st join0 nodes port members lk) (wf : WF T K st) (hes2 : ExtSym2 T st) (hcl : Closed T st)
    (hx8 : ∀ (i : Nat) (n : Node D), nodes[i]? = some n → n.exts.val < 256) :
    Graph.Resolving (⟨K, nodes, st⟩ : G D) := by
  intro i n d hi hpos
  have hi' : nodes[i]? = some n := hi
  obtain ⟨es, he⟩ : ∃ es, findEdges (⟨K, nodes, st⟩ : G D) i d = some es := by
    unfold findEdges; rw [hi]; exact ⟨_, rfl⟩
  obtain ⟨hl, _⟩ := pg.findEdges_spec wf hes2 hcl hx8 i n hi' d es he
  refine ⟨es, he, ?_⟩
  intro e; rw [e] at hl; simp at hl; omega

end Compress
