import Dbg.Lemmas.RecompressConn
/-! Good links at the level of keys: two tables with the same content (same keys, payloads and extension sets, in any
    order) have the same key-level good-link relation, hence the same partition of keys into connected classes. -/
namespace Compress
open Walk (Conn Rel)
variable {D : Type}

def ContentLe (A B : Table D) : Prop :=
  ∀ ea ∈ A, ∃ eb ∈ B, ea.key = eb.key ∧ ea.data = eb.data ∧ ∀ d, ea.exts.dirBits d = eb.exts.dirBits d

def KRel (T : Table D) (st : Bool) (join : D → D → Bool) (k1 k2 : Seq) : Prop :=
  ∃ x y, Rel (linkOf T st join) x y ∧ keyOf T x = k1 ∧ keyOf T y = k2

inductive KConn (T : Table D) (st : Bool) (join : D → D → Bool) : Seq → Seq → Prop
  | refl (k) : KConn T st join k k
  | step {k1 k2 k3} : KConn T st join k1 k2 → KRel T st join k2 k3 → KConn T st join k1 k3

theorem conn_kconn (T : Table D) (st : Bool) (join : D → D → Bool) (x y : Nat) (h : Conn (linkOf T st join) x y) :
    KConn T st join (keyOf T x) (keyOf T y) := by
  induction h with
  | refl => exact KConn.refl _
  | step _ r ih => exact KConn.step ih ⟨_, _, r, rfl, rfl⟩

theorem rel_lt {T : Table D} {st : Bool} {join : D → D → Bool} {x y : Nat} (h : Rel (linkOf T st join) x y) :
    x < T.length ∧ y < T.length := by
  obtain ⟨d, d', hl⟩ := h
  obtain ⟨ex, ey, b, f⟩ := linkOf_inv T st join hl
  exact ⟨(List.getElem?_eq_some_iff.mp f.hx).1, (List.getElem?_eq_some_iff.mp f.hy).1⟩

theorem kconn_conn {T : Table D} {K : Nat} {st : Bool} (wf : WF T K st) (join : D → D → Bool) (k1 k2 : Seq)
    (h : KConn T st join k1 k2) (x : Nat) (hx : x < T.length) (hk : keyOf T x = k1) :
    ∃ y, y < T.length ∧ keyOf T y = k2 ∧ Conn (linkOf T st join) x y := by
  induction h with
  | refl => exact ⟨x, hx, hk, Conn.refl _⟩
  | step _ r ih =>
    obtain ⟨z, hz, hkz, hc⟩ := ih
    obtain ⟨a, b, hr, ha, hb⟩ := r
    have hab := rel_lt hr
    have : a = z := keyOf_inj wf a z hab.1 hz (by rw [ha, hkz])
    subst this
    exact ⟨b, hab.2, hb, Conn.step hc hr⟩

/-- between positions of a well-formed table, connection by links is connection of the keys -/
theorem conn_iff_kconn {T : Table D} {K : Nat} {st : Bool} (wf : WF T K st) (join : D → D → Bool) {x y : Nat}
    (hx : x < T.length) (hy : y < T.length) :
    Conn (linkOf T st join) x y ↔ KConn T st join (keyOf T x) (keyOf T y) := by
  refine ⟨conn_kconn T st join x y, fun h => ?_⟩
  obtain ⟨y', hy', hk, hc⟩ := kconn_conn wf join _ _ h x hx rfl
  rwa [keyOf_inj wf y' y hy' hy hk] at hc

theorem keyOf_of_get {T : Table D} {x : Nat} {e : Entry D} (h : T[x]? = some e) : keyOf T x = e.key := by
  unfold keyOf; rw [h]

/-- content up to the extension bytes of self-complementary keys (which good links never read) -/
def ContentLeW (st : Bool) (A B : Table D) : Prop :=
  ∀ ea ∈ A, ∃ eb ∈ B, ea.key = eb.key ∧ ea.data = eb.data ∧
    ((!st && isPalindrome ea.key) = false → ∀ d, ea.exts.dirBits d = eb.exts.dirBits d)

theorem ContentLe.toW {A B : Table D} (st : Bool) (h : ContentLe A B) : ContentLeW st A B := fun ea hea =>
  let ⟨eb, heb, hk, hd, hx⟩ := h ea hea
  ⟨eb, heb, hk, hd, fun _ => hx⟩

/-- A link reads the key, the payload and, at keys that are not
    self-complementary, the extension bits of its two entries, and nothing else -/
theorem krel_contentW {A B : Table D} {K : Nat} {st : Bool} (join : D → D → Bool) (wfB : WF B K st) (hle : ContentLeW st A B)
    (k1 k2 : Seq) (h : KRel A st join k1 k2) : KRel B st join k1 k2 := by
  obtain ⟨x, y, ⟨d, d', hl⟩, hk1, hk2⟩ := h
  obtain ⟨ex, ey, b, f⟩ := linkOf_inv A st join hl
  obtain ⟨ex', hxm, kx, dx, bx⟩ := hle ex (List.mem_of_getElem? f.hx)
  obtain ⟨ey', hym, ky, dy, by'⟩ := hle ey (List.mem_of_getElem? f.hy)
  obtain ⟨x', hx'⟩ := List.mem_iff_getElem?.mp hxm
  obtain ⟨y', hy'⟩ := List.mem_iff_getElem?.mp hym
  obtain ⟨ey0, hy0, hkey⟩ := findId_some f.hfind
  rw [f.hy] at hy0; cases hy0
  have bx := bx f.palx
  have by' := by' (by rw [hkey]; exact f.paly)
  refine ⟨x', y', ⟨d, d', ?_⟩, by rw [keyOf_of_get hx', ← kx, ← keyOf_of_get f.hx]; exact hk1,
    by rw [keyOf_of_get hy', ← ky, ← keyOf_of_get f.hy]; exact hk2⟩
  apply linkOf_intro B st join (ex := ex') (ey := ey') (b := b)
  refine ⟨hx', by rw [← bx]; exact f.cntx, by rw [← kx]; exact f.palx, by rw [← bx]; exact f.uniq, ?_, hy', ?_, ?_, ?_, ?_⟩
  · rw [← kx, ← hkey, ky]; exact findId_self wfB hy'
  · rw [← kx]; exact f.hd'
  · rw [← kx, ← by']; exact f.cnty
  · rw [← dx, ← dy]; exact f.hjoin
  · rw [← kx]; exact f.paly

theorem kconn_contentW {A B : Table D} {K : Nat} {st : Bool} (join : D → D → Bool) (wfB : WF B K st) (hle : ContentLeW st A B)
    (k1 k2 : Seq) (h : KConn A st join k1 k2) : KConn B st join k1 k2 := by
  induction h with
  | refl => exact KConn.refl _
  | step _ r ih => exact KConn.step ih (krel_contentW join wfB hle _ _ r)

theorem kconn_content {A B : Table D} {K : Nat} {st : Bool} (join : D → D → Bool) (wfB : WF B K st) (hle : ContentLe A B)
    (k1 k2 : Seq) (h : KConn A st join k1 k2) : KConn B st join k1 k2 :=
  kconn_contentW join wfB (hle.toW st) k1 k2 h

end Compress
