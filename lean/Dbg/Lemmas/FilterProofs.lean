import Dbg.Spec.C05
import Dbg.Lemmas.Window
import Dbg.Lemmas.Lex
/-! Proof that `filter_kmers` (bucket passes, stable sort, run grouping) equals the pass-free reference grouping. -/
namespace Filter
open Compress (Seq Base Exts Entry)

abbrev Ob := Seq × Exts × Nat

theorem seq_lt_trans {a b c : Seq} (h1 : a < b) (h2 : b < c) : a < c := List.lt_trans h1 h2
theorem seq_lt_irrefl (a : Seq) : ¬ a < a := List.lt_irrefl a
theorem seq_tri (a b : Seq) : a < b ∨ a = b ∨ b < a := Std.lt_trichotomy a b

theorem asc_unique_of {α : Type} {lt : α → α → Prop} (irrefl : ∀ a, ¬ lt a a) (trans : ∀ {a b c}, lt a b → lt b c → lt a c) :
    ∀ (l1 l2 : List α), l1.Pairwise lt → l2.Pairwise lt → (∀ x, x ∈ l1 ↔ x ∈ l2) → l1 = l2 := by
  intro l1 l2 p1 p2 h
  have nd : ∀ {l : List α}, l.Pairwise lt → l.Nodup := fun p =>
    List.nodup_iff_pairwise_ne.mpr (p.imp fun {a b} (hab : lt a b) (e : a = b) => irrefl b (e ▸ hab))
  exact List.Perm.eq_of_pairwise (fun a _ _ _ hab hba => absurd (trans hab hba) (irrefl a)) p1 p2
    ((List.perm_ext_iff_of_nodup (nd p1) (nd p2)).mpr h)

theorem asc_unique : ∀ (l1 l2 : List Seq), l1.Pairwise (· < ·) → l2.Pairwise (· < ·) → (∀ x, x ∈ l1 ↔ x ∈ l2) → l1 = l2 :=
  asc_unique_of seq_lt_irrefl seq_lt_trans

theorem mem_insertKey (x y : Seq) (l : List Seq) : y ∈ insertKey x l ↔ y = x ∨ y ∈ l := by
  induction l with
  | nil => simp [insertKey]
  | cons a t ih =>
    rw [insertKey]
    split
    · simp
    · split
      · rename_i h; simp [h]
      · simp [ih, or_left_comm]

theorem asc_insertKey (x : Seq) (l : List Seq) (h : l.Pairwise (· < ·)) : (insertKey x l).Pairwise (· < ·) := by
  induction l with
  | nil => exact List.pairwise_singleton _ _
  | cons a t ih =>
    have ⟨ha, ht⟩ := List.pairwise_cons.mp h
    rw [insertKey]
    split
    · rename_i h1
      exact List.pairwise_cons.mpr ⟨fun y hy => (List.mem_cons.mp hy).elim (· ▸ h1) fun hy => seq_lt_trans h1 (ha y hy), h⟩
    · split
      · exact h
      · rename_i h1 h2
        refine List.pairwise_cons.mpr ⟨fun y hy => ?_, ih ht⟩
        rcases (mem_insertKey x y t).mp hy with rfl | hy
        · exact ((seq_tri y a).resolve_left h1).resolve_left h2
        · exact ha y hy

theorem distinctKeys_spec (obs : List Ob) :
    (distinctKeys obs).Pairwise (· < ·) ∧ ∀ k, k ∈ distinctKeys obs ↔ ∃ o ∈ obs, o.1 = k := by
  unfold distinctKeys
  have : ∀ (l : List Ob) (acc : List Seq), acc.Pairwise (· < ·) →
      (l.foldl (fun acc o => insertKey o.1 acc) acc).Pairwise (· < ·) ∧
      ∀ k, k ∈ l.foldl (fun acc o => insertKey o.1 acc) acc ↔ (k ∈ acc ∨ ∃ o ∈ l, o.1 = k) := by
    intro l
    induction l with
    | nil => intro acc h; exact ⟨h, by simp⟩
    | cons o t ih =>
      intro acc h
      obtain ⟨i1, i2⟩ := ih (insertKey o.1 acc) (asc_insertKey o.1 acc h)
      refine ⟨i1, ?_⟩
      intro k
      rw [List.foldl_cons, i2 k, mem_insertKey]
      simp only [List.mem_cons, exists_eq_or_imp, eq_comm (a := k), or_assoc, or_left_comm]
  obtain ⟨a, b⟩ := this obs [] (by simp)
  exact ⟨a, fun k => by rw [b k]; simp⟩

/-- stability: among the elements of one key, the inserted element stays in front -/
theorem filter_insertByKey (x : Ob) (l : List Ob) (k : Seq) :
    (insertByKey x l).filter (fun o => o.1 == k) = (x :: l).filter (fun o => o.1 == k) := by
  induction l with
  | nil => rfl
  | cons y ys ih =>
    rw [insertByKey]
    split
    · rename_i hlt
      rw [List.filter_cons, ih]
      -- `y` goes in front of `x`, but they cannot both have key `k`
      by_cases hx : x.1 = k
      · have hy : (y.1 == k) = false := by
          simp only [beq_eq_false_iff_ne]
          intro e; rw [e, hx] at hlt; exact seq_lt_irrefl _ hlt
        simp [List.filter_cons, hy]
      · simp [List.filter_cons, hx]
    · rfl

theorem filter_sortByKey (l : List Ob) (k : Seq) :
    (sortByKey l).filter (fun o => o.1 == k) = l.filter (fun o => o.1 == k) := by
  induction l with
  | nil => rfl
  | cons x t ih =>
    rw [show sortByKey (x :: t) = insertByKey x (sortByKey t) from rfl, filter_insertByKey, List.filter_cons,
      List.filter_cons, ih]

theorem insertByKey_perm (x : Ob) (l : List Ob) : (insertByKey x l).Perm (x :: l) := by
  induction l with
  | nil => exact .refl _
  | cons y ys ih =>
    rw [insertByKey]
    split
    · exact (ih.cons y).trans (List.Perm.swap x y ys)
    · exact .refl _

theorem sortByKey_perm (l : List Ob) : (sortByKey l).Perm l := by
  induction l with
  | nil => exact .refl _
  | cons x t ih => exact (insertByKey_perm x (sortByKey t)).trans (ih.cons x)

def SortedK (l : List Ob) : Prop := l.Pairwise fun a b => a.1 ≤ b.1

theorem sorted_insertByKey (x : Ob) (l : List Ob) (h : SortedK l) : SortedK (insertByKey x l) := by
  induction l with
  | nil => exact List.pairwise_singleton _ _
  | cons a t ih =>
    rw [SortedK, List.pairwise_cons] at h
    rw [insertByKey]
    split
    · rename_i hlt
      refine List.pairwise_cons.mpr ⟨fun y hy => ?_, ih h.2⟩
      rcases List.mem_cons.mp ((insertByKey_perm x t).mem_iff.mp hy) with rfl | hy
      · exact List.le_of_lt hlt
      · exact h.1 y hy
    · rename_i hlt
      have hxa : x.1 ≤ a.1 := List.not_lt.mp hlt
      exact List.pairwise_cons.mpr ⟨fun y hy => (List.mem_cons.mp hy).elim (· ▸ hxa) fun hy => List.le_trans hxa (h.1 y hy),
        List.pairwise_cons.mpr h⟩

theorem sorted_sortByKey (l : List Ob) : SortedK (sortByKey l) := by
  induction l with
  | nil => exact List.Pairwise.nil
  | cons x t ih => exact sorted_insertByKey x _ ih

def snd2 (o : Ob) : Exts × Nat := (o.2.1, o.2.2)

def obsOf (obs : List Ob) (k : Seq) : Seq × List (Exts × Nat) := (k, (obs.filter fun o => o.1 == k).map snd2)

theorem distinctKeys_eq (obs : List Ob) (T : List Seq) (hT : T.Pairwise (· < ·)) (hm : ∀ k, k ∈ T ↔ ∃ o ∈ obs, o.1 = k) :
    distinctKeys obs = T :=
  asc_unique _ _ (distinctKeys_spec obs).1 hT fun k => by rw [(distinctKeys_spec obs).2, hm]

theorem distinctKeys_cons (x : Ob) (xs : List Ob) : distinctKeys (x :: xs) = insertKey x.1 (distinctKeys xs) := by
  obtain ⟨da, db⟩ := distinctKeys_spec xs
  refine distinctKeys_eq _ _ (asc_insertKey _ _ da) fun k => ?_
  rw [mem_insertKey, db]
  simp only [List.mem_cons, exists_eq_or_imp, eq_comm (a := k)]

theorem groupRuns_sorted : ∀ (S : List Ob), SortedK S → groupRuns S = (distinctKeys S).map (obsOf S)
  | [], _ => rfl
  | x :: xs, hs => by
    rw [SortedK, List.pairwise_cons] at hs
    have ih := groupRuns_sorted xs hs.2
    obtain ⟨da, db⟩ := distinctKeys_spec xs
    have hfil : ∀ k, k ≠ x.1 → (x :: xs).filter (fun o => o.1 == k) = xs.filter (fun o => o.1 == k) :=
      fun k hk => List.filter_cons_of_neg (by simpa using hk.symm)
    rw [distinctKeys_cons, groupRuns, ih]
    cases hd : distinctKeys xs with
    | nil =>
      have hxs : xs = [] := List.eq_nil_iff_forall_not_mem.mpr fun o ho => by
        have := (db o.1).mpr ⟨o, ho, rfl⟩
        rw [hd] at this; cases this
      subst hxs
      simp [insertKey, obsOf, snd2]
    | cons k ks =>
      rw [hd] at da db
      rw [List.pairwise_cons] at da
      -- `k` is the key of some element of `xs`, hence not below `x.1`; the keys after it are above `x.1`
      have hk : x.1 ≤ k := by
        obtain ⟨o, ho, e⟩ := (db k).mp (List.mem_cons_self ..)
        exact e ▸ hs.1 o ho
      have hks : ∀ k' ∈ ks, k' ≠ x.1 := fun k' hk' e => List.not_lt.mpr hk (e ▸ da.1 k' hk')
      have hmap : ks.map (obsOf (x :: xs)) = ks.map (obsOf xs) := List.map_congr_left fun k' hk' => by
        rw [obsOf, obsOf, hfil k' (hks k' hk')]
      by_cases he : k = x.1
      · -- `x` joins the first run
        subst he
        simp [insertKey, seq_lt_irrefl, hmap, obsOf, snd2]
      · -- `x` starts a run of its own: no other element has its key
        have hlt : x.1 < k := (seq_tri x.1 k).resolve_right fun h => h.elim (fun e => he e.symm) (List.not_lt.mpr hk)
        have hnone : xs.filter (fun o => o.1 == x.1) = [] := List.filter_eq_nil_iff.mpr fun o ho => by
          have hm := (db o.1).mpr ⟨o, ho, rfl⟩
          rcases List.mem_cons.mp hm with e | hm
          · simpa [e] using he
          · simpa using hks _ hm
        have hb : (k == x.1) = false := by simpa using he
        simp [insertKey, hlt, hb, hmap, hfil k he, obsOf, snd2, hnone]

theorem bucket_groups (L : List Ob) : groupRuns (sortByKey L) = (distinctKeys L).map (obsOf L) := by
  rw [groupRuns_sorted _ (sorted_sortByKey L),
    distinctKeys_eq (sortByKey L) _ (distinctKeys_spec L).1 fun k => by
      rw [(distinctKeys_spec L).2]; simp only [(sortByKey_perm L).mem_iff]]
  exact List.map_congr_left fun k _ => by rw [obsOf, filter_sortByKey]; rfl

theorem rangesFrom_enum (sz : Nat) (hsz : 0 < sz) (start : Nat) (hs : start ≤ 256) :
    ∃ c, (rangesFrom sz start).flatMap (fun p => List.range' p.1 (min p.2 256 - p.1)) = List.range' start c ∧ start + c = 256 := by
  fun_induction rangesFrom sz start with
  | case1 start h ih =>
    rw [List.flatMap_cons]
    by_cases hle : start + sz ≤ 256
    · obtain ⟨c, hc, hn⟩ := ih hle
      refine ⟨sz + c, ?_, by rw [← Nat.add_assoc]; exact hn⟩
      rw [hc, Nat.min_eq_left hle, Nat.add_sub_cancel_left, List.range'_append_1]
    · -- the last range is cut at 256; the recursion stops
      rw [rangesFrom, dif_neg (fun h' => hle (Nat.le_of_lt h'.1)), List.flatMap_nil, List.append_nil, Nat.min_eq_right (Nat.le_of_not_le hle)]
      exact ⟨256 - start, rfl, Nat.add_sub_cancel' hs⟩
  | case2 start h => exact ⟨0, rfl, by omega⟩

theorem bucketRanges_enum (slices : Nat) :
    (bucketRanges slices).flatMap (fun p => List.range' p.1 (min p.2 256 - p.1)) = List.range 256 := by
  obtain ⟨c, hc, hn⟩ := rangesFrom_enum (256 / slices + 1) (Nat.succ_pos _) 0 (Nat.zero_le _)
  rw [Nat.zero_add] at hn
  rw [bucketRanges, hc, hn, List.range_eq_range']

theorem rangesFrom_length (sz : Nat) (start : Nat) : (rangesFrom sz start).length ≤ 256 - start := by
  fun_induction rangesFrom sz start with
  | case1 start h ih => simp only [List.length_cons]; omega
  | case2 start h => simp

theorem mem_rangesFrom (sz start lo hi : Nat) (h : (lo, hi) ∈ rangesFrom sz start) :
    lo < 256 ∧ hi = lo + sz ∧ ∃ q, lo = start + q * sz := by
  fun_induction rangesFrom sz start with
  | case1 start hh ih =>
    rcases List.mem_cons.mp h with e | h'
    · cases e
      exact ⟨hh.1, rfl, 0, by rw [Nat.zero_mul]; rfl⟩
    · obtain ⟨b, c, q, hq⟩ := ih h'
      exact ⟨b, c, q + 1, by rw [hq, Nat.add_mul, Nat.one_mul, Nat.add_assoc, Nat.add_comm sz]⟩
  | case2 start hh => exact absurd h List.not_mem_nil

theorem bucket4_val : ∀ a b c d : Fin 4,
    ((a.val <<< 6) ||| (b.val <<< 4) ||| (c.val <<< 2) ||| d.val) = 64 * a.val + 16 * b.val + 4 * c.val + d.val := by decide +kernel

theorem bucket_cons4 (a b c d : Base) (r : Seq) : bucket (a :: b :: c :: d :: r) = 64 * a.val + 16 * b.val + 4 * c.val + d.val := by
  simp [bucket, bucket4_val]

theorem four_le_length (k : Seq) (h : 4 ≤ k.length) : ∃ a b c d r, k = a :: b :: c :: d :: r :=
  match k, h with
  | a :: b :: c :: d :: r, _ => ⟨a, b, c, d, r, rfl⟩

theorem bucket_eq_val (a b c d : Base) (r : Seq) : bucket (a :: b :: c :: d :: r) = Lex.val [a.val, b.val, c.val, d.val] := by
  rw [bucket_cons4]
  simp only [Lex.val, List.foldl_cons, List.foldl_nil]
  omega

theorem digits4 (a b c d : Base) : ∀ x ∈ [a.val, b.val, c.val, d.val], x < 4 := by
  intro x hx
  simp only [List.mem_cons, List.not_mem_nil, or_false] at hx
  rcases hx with rfl | rfl | rfl | rfl <;> exact Fin.isLt _

theorem bucket_lt_256 (k : Seq) (h : 4 ≤ k.length) : bucket k < 256 := by
  obtain ⟨a, b, c, d, r, rfl⟩ := four_le_length k h
  rw [bucket_eq_val]
  simpa using Lex.val_lt _ (digits4 a b c d)

/-- a smaller bucket means a smaller key (keys of length ≥ 4): the bucket is the base-4 value of the first four bases,
    and the key order is lexicographic -/
theorem bucket_mono (k1 k2 : Seq) (h1 : 4 ≤ k1.length) (h2 : 4 ≤ k2.length) (h : bucket k1 < bucket k2) : k1 < k2 := by
  obtain ⟨a, b, c, d, r, rfl⟩ := four_le_length k1 h1
  obtain ⟨a', b', c', d', r', rfl⟩ := four_le_length k2 h2
  rw [bucket_eq_val, bucket_eq_val, Lex.val_lt_iff_lex [a.val, b.val, c.val, d.val] [a'.val, b'.val, c'.val, d'.val] rfl
    (digits4 a b c d) (digits4 a' b' c' d')] at h
  simp only [List.cons_lt_cons_iff, Fin.lt_def, Fin.ext_iff] at h ⊢
  -- the first four bases decide; they cannot all tie
  exact h.imp id (And.imp id (Or.imp id (And.imp id (Or.imp id (And.imp id (Or.imp id fun h => absurd h.2 (List.lt_irrefl _)))))))

theorem distinctKeys_filter (obs : List Ob) (q : Seq → Bool) :
    distinctKeys (obs.filter fun o => q o.1) = (distinctKeys obs).filter q := by
  obtain ⟨da, db⟩ := distinctKeys_spec obs
  refine distinctKeys_eq _ _ (da.filter _) fun k => ?_
  rw [List.mem_filter, db]
  constructor
  · rintro ⟨⟨o, ho, rfl⟩, hq⟩; exact ⟨o, List.mem_filter.mpr ⟨ho, hq⟩, rfl⟩
  · rintro ⟨o, ho, rfl⟩; exact ⟨⟨o, (List.mem_filter.mp ho).1, rfl⟩, (List.mem_filter.mp ho).2⟩

theorem filter_filter_key (obs : List Ob) (q : Seq → Bool) (k : Seq) (hq : q k = true) :
    (obs.filter fun o => q o.1).filter (fun o => o.1 == k) = obs.filter fun o => o.1 == k := by
  rw [List.filter_filter]
  apply List.filter_congr
  intro o _
  by_cases h : (o.1 == k) = true
  · rw [eq_of_beq h, hq]; simp
  · simp [h]

/-- all passes together: buckets ascend with the keys, so the per-bucket key lists, concatenated, are the key list -/
theorem all_groups (obs : List Ob) (hlen : ∀ o ∈ obs, 4 ≤ o.1.length) :
    (List.range 256).flatMap (fun b => groupRuns (sortByKey (obs.filter fun o => bucket o.1 == b))) =
      (distinctKeys obs).map (obsOf obs) := by
  obtain ⟨da, db⟩ := distinctKeys_spec obs
  have h1 : ∀ b, groupRuns (sortByKey (obs.filter fun o => bucket o.1 == b)) =
      ((distinctKeys obs).filter (bucket · == b)).map (obsOf obs) := fun b => by
    rw [bucket_groups, distinctKeys_filter obs (bucket · == b)]
    exact List.map_congr_left fun k hk => by rw [obsOf, obsOf, filter_filter_key obs (bucket · == b) k (List.mem_filter.mp hk).2]
  simp only [h1]
  rw [← List.map_flatMap]
  congr 1
  have hl : ∀ k ∈ distinctKeys obs, 4 ≤ k.length := fun k hk => by
    obtain ⟨o, ho, rfl⟩ := (db k).mp hk; exact hlen o ho
  refine asc_unique _ _ (List.pairwise_flatMap.mpr ⟨fun b _ => da.sublist List.filter_sublist, ?_⟩) da fun k => ?_
  · refine List.Pairwise.imp ?_ List.pairwise_lt_range
    intro b1 b2 hlt x hx y hy
    obtain ⟨hx1, hx2⟩ := List.mem_filter.mp hx
    obtain ⟨hy1, hy2⟩ := List.mem_filter.mp hy
    exact bucket_mono x y (hl x hx1) (hl y hy1) (by rw [eq_of_beq hx2, eq_of_beq hy2]; exact hlt)
  · simp only [List.mem_flatMap, List.mem_range, List.mem_filter]
    exact ⟨fun ⟨_, _, h, _⟩ => h, fun h => ⟨bucket k, bucket_lt_256 k (hl k h), h, beq_self_eq_true _⟩⟩

theorem kmerExtsOf_fst (K : Nat) (s : Seq) (e : Exts) :
    (kmerExtsOf K s e).map (·.1) = if s.length < K then [] else (List.range (s.length - K + 1)).map (win s K) := by
  unfold kmerExtsOf
  split
  · rfl
  · rw [List.map_map]
    exact List.map_congr_left fun i _ => Msp.window_eq s.toArray K i

theorem kmerExtsOf_len (K : Nat) (s : Seq) (e : Exts) : ∀ x ∈ kmerExtsOf K s e, x.1.length = K := by
  intro x hx
  have hm := List.mem_map_of_mem (f := (·.1)) hx
  rw [kmerExtsOf_fst] at hm
  split at hm
  · cases hm
  · obtain ⟨i, hi, e⟩ := List.mem_map.mp hm
    rw [← e]
    exact win_length s K i (by have := List.mem_range.mp hi; omega)

section canon
open Compress (rc canonSt minRcFlip)

def canonObs (st : Bool) (km : Seq) (E : Exts) (lab : Nat) : Seq × Exts × Nat :=
  if st then (km, E, lab) else if km < rc km then (km, E, lab) else (rc km, E.rc, lab)

theorem canonSt_cases (st : Bool) (u : Seq) :
    (canonSt st u = (u, false) ∧ (st = false → u < rc u)) ∨ (st = false ∧ ¬ u < rc u ∧ canonSt st u = (rc u, true)) := by
  unfold canonSt minRcFlip
  cases st with
  | true => exact Or.inl ⟨rfl, fun h => nomatch h⟩
  | false =>
    by_cases h : u < rc u
    · exact Or.inl ⟨by simp [h], fun _ => h⟩
    · exact Or.inr ⟨rfl, h, by simp [h]⟩

theorem canonObs_eq (st : Bool) (km : Seq) (E : Exts) (lab : Nat) :
    canonObs st km E lab = ((canonSt st km).1, if (canonSt st km).2 then E.rc else E, lab) := by
  unfold canonObs
  rcases canonSt_cases st km with ⟨hc, hlt⟩ | ⟨rfl, hlt, hc⟩
  · rw [hc]
    cases st with
    | true => rfl
    | false => simp [hlt rfl]
  · rw [hc]; simp [hlt]

end canon

theorem observations_canon (K : Nat) (reads : List (Seq × Exts × Nat)) (st : Bool) :
    observations K reads st = reads.flatMap fun r => (kmerExtsOf K r.1 r.2.1).map fun x => canonObs st x.1 x.2 r.2.2 := by
  unfold observations
  rw [List.flatMap_def, List.flatMap_def]
  congr 1

theorem observations_len (K : Nat) (reads : List (Seq × Exts × Nat)) (st : Bool) : ∀ o ∈ observations K reads st, o.1.length = K := by
  intro o ho
  rw [observations_canon] at ho
  obtain ⟨r, _, ho⟩ := List.mem_flatMap.mp ho
  obtain ⟨x, hx, rfl⟩ := List.mem_map.mp ho
  have := kmerExtsOf_len K r.1 r.2.1 x hx
  rw [canonObs_eq]
  rcases canonSt_cases st x.1 with ⟨hc, _⟩ | ⟨_, _, hc⟩
  · rw [hc]; exact this
  · rw [hc]; exact (Compress.rc_length _).trans this

/-- the observation stream of the model is the one of the reference -/
theorem obsAll_eq (K : Nat) (reads : List (Seq × Exts × Nat)) (st : Bool) :
    (reads.flatMap fun r => (kmerExtsOf K r.1 r.2.1).map fun (km, ex) =>
      if !st then
        let (mk, flip) := Compress.minRcFlip km
        (mk, if flip then ex.rc else ex, r.2.2)
      else (km, ex, r.2.2)) = observations K reads st := by
  rw [observations_canon]
  apply List.flatMap_congr_mem
  intro r _
  apply List.map_congr_left
  intro x _
  rw [canonObs_eq]
  cases st <;> rfl

theorem filterKmers_eq_ref (K : Nat) (reads : List (Seq × Exts × Nat)) (sm : Summarizer) (st ra : Bool) (mem bpu sz : Nat)
    (hK : 4 ≤ K) (hm : 1 ≤ mem) (hb : 1 ≤ bpu) :
    ∃ r, filterKmers K reads sm st ra mem bpu sz = some r ∧ r.table = refTable K reads sm st ∧
      r.allKmers = (if ra then refAllKmers K reads st else []) := by
  unfold filterKmers
  have hmm : ¬ (mem * bpu = 0) := by
    intro h; rcases Nat.mul_eq_zero.mp h with h | h <;> omega
  -- whatever the ranges, the passes together visit the buckets 0..255 in order
  have hg : ∀ slices, ((bucketRanges slices).map fun (lo, hi) =>
      (List.range' lo (min hi 256 - lo)).flatMap fun b =>
        groupRuns (sortByKey ((observations K reads st).filter fun o => bucket o.1 == b))).flatten =
      (distinctKeys (observations K reads st)).map (obsOf (observations K reads st)) := by
    intro slices
    have : ∀ (rs : List (Nat × Nat)),
        (rs.flatMap fun (p : Nat × Nat) => (List.range' p.1 (min p.2 256 - p.1)).flatMap fun b =>
          groupRuns (sortByKey ((observations K reads st).filter fun o => bucket o.1 == b))) =
        (rs.flatMap fun p => List.range' p.1 (min p.2 256 - p.1)).flatMap fun b =>
          groupRuns (sortByKey ((observations K reads st).filter fun o => bucket o.1 == b)) :=
      fun rs => List.flatMap_assoc.symm
    rw [← List.flatMap_def, this, bucketRanges_enum]
    exact all_groups _ (fun o ho => by rw [observations_len K reads st o ho]; exact hK)
  simp only [hmm, if_false]
  refine ⟨_, rfl, ?_, ?_⟩
  · simp only
    rw [obsAll_eq K reads st, hg]
    rfl
  · simp only
    rw [obsAll_eq K reads st, hg]
    cases ra <;> simp [refAllKmers, refGroups, obsOf, List.map_map, Function.comp_def]

def entryOf (sm : Summarizer) (obs : List Ob) (k : Seq) : Option (Entry Payload) :=
  let s := summarize sm ((obs.filter fun o => o.1 == k).map fun o => (o.2.1, o.2.2))
  if s.1 then some ⟨k, s.2.1, s.2.2⟩ else none

theorem refTable_eq (K : Nat) (reads : List Ob) (sm : Summarizer) (st : Bool) :
    refTable K reads sm st = (distinctKeys (observations K reads st)).filterMap (entryOf sm (observations K reads st)) := by
  unfold refTable refGroups
  rw [List.filterMap_map]
  rfl

theorem refAllKmers_eq (K : Nat) (reads : List Ob) (st : Bool) : refAllKmers K reads st = distinctKeys (observations K reads st) := by
  simp [refAllKmers, refGroups, List.map_map, Function.comp_def]

theorem summarize_exts (sm : Summarizer) (l : List (Exts × Nat)) : (summarize sm l).2.1 = ⟨l.foldl (fun a o => a ||| o.1.val) 0⟩ := by
  cases sm <;> rfl

theorem entryOf_some {sm : Summarizer} {obs : List Ob} {k : Seq} {e : Entry Payload} (h : entryOf sm obs k = some e) :
    e.key = k ∧ e.exts = ⟨((obs.filter fun o => o.1 == k).map fun o => (o.2.1, o.2.2)).foldl (fun a o => a ||| o.1.val) 0⟩ := by
  unfold entryOf at h
  simp only at h
  split at h
  · cases h; exact ⟨rfl, summarize_exts sm _⟩
  · cases h

end Filter
