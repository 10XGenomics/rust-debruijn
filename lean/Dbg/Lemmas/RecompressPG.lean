import Dbg.Lemmas.RecompressPorts
import Dbg.Lemmas.PathDirs
import Dbg.Lemmas.FilterRc
import Dbg.Lemmas.ShardGraph
import Dbg.Lemmas.ChainOps
/-! Each node `compress_graph` builds from a ported graph is a ported node of the pruned table (`recompress_node_ok`);
    `RecompressPG2` assembles the graph. -/
namespace Compress
open Walk (Dir Conn rm)
open Filter (has ExtSym2)
open Graph (G termKmer orientedKmers)
open CompressGraph (glinkV RInv buildNode ids walkEnd)
variable {D : Type}

def canonKeys (K : Nat) (st : Bool) (n : Node D) : List Seq := (windowsOf K n.seq).map fun w => (canonOf st w).1

theorem canon_map_rc (K : Nat) (s : Seq) (h : K ≤ s.length) :
    (windowsOf K (rc s)).map (fun w => (canonOf false w).1) = ((windowsOf K s).map (fun w => (canonOf false w).1)).reverse := by
  rw [windowsOf_rc K s h, List.map_reverse, List.map_map]
  congr 1
  apply List.map_congr_left
  intro w _
  exact canonOf_rc w

theorem canonKeys_of_path (g : G D) (st : Bool) (path : List (Nat × Dir)) (nd : Node D)
    (hw : windowsOf g.K nd.seq = path.flatMap (orientedKmers g))
    (hl : ∀ q ∈ path, ∀ nq, g.nodes[q.1]? = some nq → g.K ≤ nq.seq.length) (hdirs : st = true → ∀ q ∈ path, q.2 = Dir.L) :
    canonKeys g.K st nd = path.flatMap fun q => match g.nodes[q.1]? with
      | some nq => if q.2 = Dir.L then canonKeys g.K st nq else (canonKeys g.K st nq).reverse
      | none => [] := by
  unfold canonKeys
  rw [hw, List.map_flatMap]
  apply List.flatMap_congr_mem
  intro q hq
  unfold orientedKmers
  cases hnq : g.nodes[q.1]? with
  | none => rfl
  | some nq =>
    cases hd : q.2 with
    | L => rfl
    | R =>
      cases st with
      | true => have := hdirs rfl q hq; rw [hd] at this; cases this
      | false => exact canon_map_rc g.K nq.seq (hl q hq nq hnq)

theorem windowsOf_ne_nil (K : Nat) (s : Seq) (h : K ≤ s.length) : windowsOf K s ≠ [] :=
  List.ne_nil_of_length_eq_add_one (windowsOf_length K s h)

theorem seq_eq_of_windows_single (K : Nat) (s t : Seq) (hs : K ≤ s.length) (ht : t.length = K)
    (h : windowsOf K s = windowsOf K t) : s = t := by
  have hl : s.length = K := by
    have := congrArg List.length h
    rw [windowsOf_length K s hs, windowsOf_single K t ht, List.length_singleton] at this
    omega
  rw [windowsOf_single K s hl, windowsOf_single K t ht] at h
  exact List.singleton_inj.mp h

/-- a sequence whose k-mer list begins (ends) with that of `t` begins (ends) with the same k-mer as `t` -/
theorem termKmer_of_windows (K : Nat) (s t : Seq) (hs : K ≤ s.length) (ht : K ≤ t.length) (pre post : List Seq)
    (h : windowsOf K s = pre ++ windowsOf K t ++ post) (d : Dir) (hd : (match d with | .L => pre | .R => post) = []) :
    termKmer K s d = termKmer K t d := by
  have hs' := windowsOf_head_last K s hs
  have ht' := windowsOf_head_last K t ht
  rw [h] at hs'
  cases d
  · have := hs'.1
    rw [show pre = [] from hd, List.nil_append, List.head?_append, ht'.1, Option.some_or] at this
    exact (Option.some.inj this).symm
  · have := hs'.2
    rw [show post = [] from hd, List.append_nil, List.getLast?_append, ht'.2, Option.some_or] at this
    exact (Option.some.inj this).symm

theorem orientedKmers_eq (K : Nat) (st : Bool) (nodes : List (Node D)) (Y : Nat) (ω : Dir) (nY : Node D) (h : nodes[Y]? = some nY) :
    orientedKmers (⟨K, nodes, st⟩ : G D) (Y, ω) = windowsOf K (match ω with | .L => nY.seq | .R => rc nY.seq) := by
  unfold orientedKmers
  have : (⟨K, nodes, st⟩ : G D).nodes[(Y, ω).1]? = some nY := h
  rw [this]
  cases ω <;> rfl

/-- `p` is the old node at end `s` of the path, with its outer side -/
def AtEnd (path : List (Nat × Dir)) (s : Dir) (p : Nat × Dir) : Prop :=
  match s with
  | .L => ∃ rest, path = p :: rest
  | .R => ∃ front, path = front ++ [CompressGraph.flip2 p]

/-- the node at an end of a path is on the path; in a path that keeps every node as stored its outer side is that end -/
theorem AtEnd.mem {path : List (Nat × Dir)} {s : Dir} {p : Nat × Dir} (h : AtEnd path s p) :
    ∃ q ∈ path, q.1 = p.1 ∧ (q.2 = Dir.L → p.2 = s) := by
  obtain ⟨Y, σ⟩ := p
  cases s
  · obtain ⟨rest, rfl⟩ := h
    exact ⟨(Y, σ), List.mem_cons_self .., rfl, id⟩
  · obtain ⟨front, rfl⟩ := h
    refine ⟨(Y, σ.flip), by simp [CompressGraph.flip2], rfl, fun hq => ?_⟩
    cases σ
    · cases hq
    · rfl

/-- the two k-mer ports of a node of the re-compressed graph: those of the first and of the last old node on its path, on
    their outer sides -/
def pathPort (port1 : Nat → Dir → Nat × Dir) (path : List (Nat × Dir)) : Dir → Nat × Dir
  | .L => match path.head? with | some q => port1 q.1 q.2 | none => (0, .L)
  | .R => match path.getLast? with | some q => port1 q.1 q.2.flip | none => (0, .R)

theorem AtEnd.pathPort (port1 : Nat → Dir → Nat × Dir) {path : List (Nat × Dir)} {s : Dir} {p : Nat × Dir} (h : AtEnd path s p) :
    pathPort port1 path s = port1 p.1 p.2 := by
  cases s
  · obtain ⟨rest, rfl⟩ := h; rfl
  · obtain ⟨front, rfl⟩ := h
    show (match (front ++ [CompressGraph.flip2 p]).getLast? with | some q => port1 q.1 q.2.flip | none => (0, Dir.R)) = _
    rw [List.getLast?_concat]
    show port1 p.1 p.2.flip.flip = _
    rw [Dir.flip_flip]

/-- a node whose k-mers are those of a path of old nodes is at least `K` long, and at its end `s`, where the path has the
    old node `p.1` with outer side `p.2`, it begins (ends) with the same k-mer as that node, as it lies there -/
theorem termKmer_of_path (K : Nat) (st : Bool) (nodes : List (Node D)) (hl : ∀ (i : Nat) (n : Node D), nodes[i]? = some n → K ≤ n.seq.length)
    (nd : Node D) (path : List (Nat × Dir)) (hw : windowsOf K nd.seq = path.flatMap (orientedKmers (⟨K, nodes, st⟩ : G D)))
    (s : Dir) (p : Nat × Dir) (nY : Node D) (hY : nodes[p.1]? = some nY)
    (he : AtEnd path s p) :
    K ≤ nd.seq.length ∧ termKmer K nd.seq s = termKmer K (if p.2 = s then nY.seq else rc nY.seq) s := by
  obtain ⟨Y, σ⟩ := p
  have hlo : K ≤ (if σ = s then nY.seq else rc nY.seq).length := by
    split
    · exact hl Y nY hY
    · rw [rc_length]; exact hl Y nY hY
  obtain ⟨pre, post, hw', hnil⟩ : ∃ pre post,
      windowsOf K nd.seq = pre ++ windowsOf K (if σ = s then nY.seq else rc nY.seq) ++ post ∧
        (match s with | .L => pre | .R => post) = [] := by
    cases s
    · obtain ⟨rest, hp⟩ := he
      refine ⟨[], rest.flatMap (orientedKmers (⟨K, nodes, st⟩ : G D)), ?_, rfl⟩
      rw [hw, hp, List.flatMap_cons, orientedKmers_eq K st nodes _ _ nY hY]
      cases σ <;> rfl
    · obtain ⟨front, hp⟩ := he
      refine ⟨front.flatMap (orientedKmers (⟨K, nodes, st⟩ : G D)), [], ?_, rfl⟩
      rw [hw, hp, List.flatMap_append, List.flatMap_cons, List.flatMap_nil, show CompressGraph.flip2 (Y, σ) = (Y, σ.flip) from rfl,
        orientedKmers_eq K st nodes _ _ nY hY, List.append_nil, List.append_nil]
      cases σ <;> rfl
  have hlen : K ≤ nd.seq.length := by
    apply Nat.le_of_not_lt
    intro h
    rw [windowsOf_short K nd.seq h] at hw'
    exact windowsOf_ne_nil K _ hlo (List.append_eq_nil_iff.mp (List.append_eq_nil_iff.mp hw'.symm).1).2
  exact ⟨hlen, termKmer_of_windows K _ _ hlen hlo pre post hw' s hnil⟩

theorem list_head_tail {α} (l : List α) (a : α) (h : l.head? = some a) : ∃ t, l = a :: t := by
  cases l with
  | nil => cases h
  | cons x t => simp only [List.head?_cons, Option.some.injEq] at h; exact ⟨t, by rw [h]⟩

theorem list_front_last {α} (l : List α) (a : α) (h : l.getLast? = some a) : ∃ f, l = f ++ [a] := by
  have hne : l ≠ [] := by intro e; rw [e] at h; cases h
  refine ⟨l.dropLast, ?_⟩
  have h1 := List.dropLast_concat_getLast hne
  have h2 : l.getLast hne = a := by
    rw [List.getLast?_eq_some_getLast hne] at h
    exact Option.some.inj h
  rw [h2] at h1
  exact h1.symm

theorem nodeChain_ends (lw rw : List (Nat × Dir)) (seed : Nat) (s : Dir) :
    AtEnd ((nodeChain lw rw seed).map CompressGraph.flip2) s (walkEnd lw rw seed s) := by
  cases s
  · obtain ⟨c0, h0, hc0⟩ := nodeChain_head lw rw seed
    apply list_head_tail
    rw [List.head?_map, List.head?_eq_getElem?, h0]
    exact congrArg some hc0
  · apply list_front_last
    rw [List.getLast?_map, List.getLast?_eq_getElem?, nodeChain_last lw rw seed]; rfl


/-- the table positions of the k-mers of a path of old nodes, in the order of the new node's k-mers -/
def memOf (mem1 : Nat → List Nat) (path : List (Nat × Dir)) : List Nat :=
  path.flatMap fun q => if q.2 = Dir.L then mem1 q.1 else (mem1 q.1).reverse

theorem mem_oriented (mem1 : Nat → List Nat) (q : Nat × Dir) (z : Nat) :
    z ∈ (if q.2 = Dir.L then mem1 q.1 else (mem1 q.1).reverse) ↔ z ∈ mem1 q.1 := by
  split
  · exact Iff.rfl
  · exact List.mem_reverse

theorem mem_memOf (mem1 : Nat → List Nat) (path : List (Nat × Dir)) (z : Nat) :
    z ∈ memOf mem1 path ↔ ∃ q ∈ path, z ∈ mem1 q.1 := by
  unfold memOf
  rw [List.mem_flatMap]
  exact exists_congr fun q => and_congr_right fun _ => mem_oriented mem1 q z

theorem memOf_map_flip2 (mem1 : Nat → List Nat) (cs : List (Nat × Dir)) :
    memOf mem1 (cs.map CompressGraph.flip2) = cs.flatMap fun c => if c.2 = Dir.R then mem1 c.1 else (mem1 c.1).reverse := by
  unfold memOf
  rw [List.flatMap_map]
  apply List.flatMap_congr_mem
  intro c _
  obtain ⟨c1, c2⟩ := c
  cases c2 <;> rfl

theorem nodup_flatMap_fst {β} (g : Nat → List β) (f : Nat × Dir → List β) (hf : ∀ q z, z ∈ f q ↔ z ∈ g q.1)
    (hfn : ∀ q, (g q.1).Nodup → (f q).Nodup) :
    ∀ (path : List (Nat × Dir)), (path.map Prod.fst).Nodup → (∀ q ∈ path, (g q.1).Nodup) →
      (∀ q ∈ path, ∀ q' ∈ path, ∀ z, z ∈ g q.1 → z ∈ g q'.1 → q.1 = q'.1) → (path.flatMap f).Nodup := by
  intro path
  induction path with
  | nil => intro _ _ _; simp
  | cons q t ih =>
    intro hnd hn hd
    rw [List.map_cons, List.nodup_cons] at hnd
    rw [List.flatMap_cons, List.nodup_append]
    refine ⟨hfn q (hn q (List.mem_cons_self ..)), ih hnd.2 (fun q' hq' => hn q' (List.mem_cons_of_mem _ hq'))
      (fun a ha b hb => hd a (List.mem_cons_of_mem _ ha) b (List.mem_cons_of_mem _ hb)), ?_⟩
    intro x hx y hy hxy
    subst hxy
    rw [List.mem_flatMap] at hy
    obtain ⟨q', hq', hy'⟩ := hy
    have := hd q (List.mem_cons_self ..) q' (List.mem_cons_of_mem _ hq') x ((hf q x).mp hx) ((hf q' x).mp hy')
    apply hnd.1
    rw [this]
    exact List.mem_map_of_mem hq'

theorem glinkV_pal_none (g : G D) (join : D → D → Bool) (valid : List Nat) (Y : Nat) (nY : Node D) (hY : g.nodes[Y]? = some nY)
    (hlen : nY.seq.length = g.K) (hrc : rc nY.seq = nY.seq) (d : Dir) : glinkV g false join valid Y d = none := by
  unfold glinkV
  split
  · rw [CompressGraph.staticNode_stop g false join Y d nY hY
      (by rw [← hlen, List.take_length, isPal_of_rc _ hrc, beq_self_eq_true]; exact Bool.or_true _)]
  · rfl

theorem joined_of_ochain {α : Type} (nl link : Walk.Link) (och : Nat × Dir → List (Nat × Dir))
    (h : ∀ a b : Nat × Dir, nl a.1 a.2 = some b → ∃ x y, (och a).getLast? = some x ∧ (och b).head? = some y ∧ link x.1 x.2 = some y) :
    ∀ (cs : List (Nat × Dir)), OChain nl cs → Joined link och cs := by
  intro cs
  induction cs with
  | nil => intro _; trivial
  | cons c t ih =>
    intro hc
    cases t with
    | nil => trivial
    | cons c' rest =>
      have hc' : LinkedFrom nl c.1 c.2 (c' :: rest) := hc
      exact ⟨h c c' hc'.1, ih hc'.2⟩


theorem PGraph.port_inj {T : Table D} {K : Nat} {st : Bool} {join0 : D → D → Bool} {nodes : List (Node D)}
    {port : Nat → Dir → Nat × Dir} {members : Nat → List Nat} {lk : Walk.Link}
    (pg : PGraph T K st join0 nodes port members lk) (Y Y' : Nat) (s s' : Dir) (hY : Y < nodes.length) (hY' : Y' < nodes.length)
    (he : port Y s = port Y' s') : (Y, s) = (Y', s') := by
  have h1 := pg.portMem Y s hY
  rw [he] at h1
  have := pg.disjoint Y Y' hY hY' _ h1 (pg.portMem Y' s' hY')
  subst this
  have hne := pg.portNe Y hY
  cases s <;> cases s'
  · rfl
  · exact absurd he hne
  · exact absurd he.symm hne
  · rfl

/-- the link out of a port that is not an end port of its node stays inside the node and arrives at no end port of any node -/
theorem PGraph.inner_link {T : Table D} {K : Nat} {st : Bool} {join0 : D → D → Bool} {nodes : List (Node D)}
    {port : Nat → Dir → Nat × Dir} {members : Nat → List Nat} {lk : Walk.Link}
    (pg : PGraph T K st join0 nodes port members lk) (Y : Nat) (hY : Y < nodes.length) (w : Nat) (hw : w ∈ members Y) (δ : Dir)
    (hno : ∀ s, (w, δ) ≠ port Y s) :
    ∃ w' d', lk w δ = some (w', d') ∧ w' ∈ members Y ∧ ∀ Y' s, Y' < nodes.length → (w', d'.flip) ≠ port Y' s := by
  obtain ⟨w', d', h1, h2, h3, h4⟩ := pg.inner Y hY w hw δ (hno .L) (hno .R)
  refine ⟨w', d', h1, h2, fun Y' s hY' he => ?_⟩
  have hm := pg.portMem Y' s hY'
  rw [← he] at hm
  rw [← pg.disjoint Y Y' hY hY' w' h2 hm] at he
  cases s
  · exact h3 he
  · exact h4 he

theorem walk_nil_of_none (link : Walk.Link) (a : List Nat) (x : Nat) (d : Dir) (h : link x d = none) : (Walk.walk link a x d).1 = [] := by
  unfold Walk.walk; rw [h]

theorem walk_head_link (link : Walk.Link) (a : List Nat) (x : Nat) (d : Dir) (q : Nat × Dir) (t : List (Nat × Dir))
    (h : (Walk.walk link a x d).1 = q :: t) : link x d = some q := by
  have := walk_linked link a x d
  rw [h] at this
  exact this.1

theorem walks_nil_of_isolated (link : Walk.Link) (hsym : Walk.Sym link) (avail : List Nat) (seed : Nat)
    (lw rw : List (Nat × Dir) × List Nat)
    (hlw : Walk.walk link (rm avail seed) seed .L = lw) (hrw : Walk.walk link lw.2 seed .R = rw)
    (E : Dir → Nat × Dir) (hE : walkEnd lw.1 rw.1 seed = E) (s : Dir) (hnone : ∀ d, link (E s).1 d = none) :
    nodeChain lw.1 rw.1 seed = [(seed, .R)] ∧ ∀ t, E t = (seed, t) := by
  subst hE
  obtain ⟨Y, hY⟩ : ∃ Y, Y = (walkEnd lw.1 rw.1 seed s).1 := ⟨_, rfl⟩
  rw [← hY] at hnone
  -- no link enters `Y`, but the end of a walk is the seed or was entered by a link
  have hnoin : ∀ x d q, link x d = some q → q.1 ≠ Y := by
    intro x d q hq he
    have := hsym x d q.1 q.2 hq
    rw [he, hnone] at this; cases this
  have hend : ∀ (d : Dir) (p : List (Nat × Dir)), LinkedFrom link seed d p → Y = (lastPort p seed d).1 → seed = Y := by
    intro d p hp h
    rcases lastPort_linked link seed d p hp with h3 | ⟨x', d', hx'⟩
    · rw [h, h3]
    · exact absurd h.symm (hnoin x' d' _ hx')
  have hseedY : seed = Y := by
    cases s
    · exact hend .L lw.1 (by rw [← hlw]; exact walk_linked link _ seed .L) hY
    · exact hend .R rw.1 (by rw [← hrw]; exact walk_linked link _ seed .R) hY
  have hl : lw.1 = [] := by rw [← hlw]; exact walk_nil_of_none link _ seed .L (by rw [hseedY]; exact hnone _)
  have hr : rw.1 = [] := by rw [← hrw]; exact walk_nil_of_none link _ seed .R (by rw [hseedY]; exact hnone _)
  rw [hl, hr]
  exact ⟨rfl, fun t => by cases t <;> rfl⟩

/-- **the path of a built node, at node level**: it lists the built ids along a chain of links, the two walks stop at
    its two ends `E`, at different ports, and every other port of a member leads to a member whose facing port is again
    not one of the two -/
theorem build_path (link : Walk.Link) (hsym : Walk.Sym link) (avail : List Nat) (seed : Nat) (hs : seed ∈ avail)
    (lw rw : List (Nat × Dir) × List Nat)
    (hlw : Walk.walk link (rm avail seed) seed .L = lw) (hrw : Walk.walk link lw.2 seed .R = rw)
    (E : Dir → Nat × Dir) (hE : walkEnd lw.1 rw.1 seed = E) :
    ids ((nodeChain lw.1 rw.1 seed).map CompressGraph.flip2) = (Walk.build link avail seed).1 ∧
    OChain link (nodeChain lw.1 rw.1 seed) ∧ (∀ s, AtEnd ((nodeChain lw.1 rw.1 seed).map CompressGraph.flip2) s (E s)) ∧
    E .L ≠ E .R ∧
    ∀ w ∈ (Walk.build link avail seed).1, ∀ δ, (w, δ) ≠ E .L → (w, δ) ≠ E .R →
      ∃ w' d', link w δ = some (w', d') ∧ w' ∈ (Walk.build link avail seed).1 ∧ (w', d'.flip) ≠ E .L ∧ (w', d'.flip) ≠ E .R := by
  obtain ⟨hb, hoc, -⟩ := build_chain link hsym avail seed hs lw rw hlw hrw
  subst hlw
  subst hrw
  subst hE
  refine ⟨?_, hoc, nodeChain_ends _ _ seed, build_ports_ne link hsym avail seed hs, build_inner link hsym avail seed hs⟩
  rw [hb]
  unfold ids
  rw [List.map_map]
  rfl

theorem termKmer_rc (K : Nat) (s : Seq) (d : Dir) (h : K ≤ s.length) : termKmer K (rc s) d = rc (termKmer K s d.flip) := by
  cases d with
  | L =>
    show (rc s).take K = rc (s.drop (s.length - K))
    rw [rc_drop, Nat.sub_sub_self h]
  | R =>
    show (rc s).drop ((rc s).length - K) = rc (s.take K)
    rw [rc_take, rc_length]

/-- **the chain of a ported node read towards side `d`** runs from the port on side `d.flip` to the port on side `d`;
    towards `L` it is the stored chain reversed, every direction flipped -/
theorem PNode.chain_towards {U : Table D} {K : Nat} {st : Bool} {lk link : Walk.Link} {n : Node D} {pt : Dir → Nat × Dir}
    {ms : List Nat} (pn : PNode U K st lk n pt ms) (hmono : ∀ x d r, lk x d = some r → link x d = some r)
    (hs : Walk.Sym link) (d : Dir) :
    ∃ cs, OChain link cs ∧ cs ≠ [] ∧ cs.map Prod.fst = (if d = Dir.R then ms else ms.reverse) ∧
      cs.head? = some (flip2 (pt d.flip)) ∧ cs.getLast? = some (pt d) := by
  obtain ⟨cs, h1, h2, h3, h4⟩ := pn.chain
  replace h3 : cs.head? = some (flip2 (pt .L)) := by
    cases hh : cs.head? with
    | none => rw [hh] at h3; cases h3
    | some c => rw [hh] at h3; rw [← Option.some.inj h3, flip2_flip2]
  have hne : cs ≠ [] := by intro e; rw [e] at h4; cases h4
  have h2' := ochain_mono lk link hmono _ h2
  cases d with
  | R => exact ⟨cs, h2', hne, by rw [h1]; rfl, h3, h4⟩
  | L =>
    refine ⟨(cs.map flip2).reverse, ochain_rev _ hs _ h2', by simp [hne], ?_, ?_, ?_⟩
    · rw [List.map_reverse, List.map_map, show (Prod.fst ∘ flip2) = (Prod.fst : Nat × Dir → Nat) by funext p; rfl, h1]
      rfl
    · rw [List.head?_reverse, List.getLast?_map, h4]
      rfl
    · rw [List.getLast?_reverse, List.head?_map, h3, Option.map_some, flip2_flip2]

theorem joinCompat_true (T : Table D) (K : Nat) (st : Bool) (nodes : List (Node D)) (port : Nat → Dir → Nat × Dir) :
    JoinCompat (U := T) (K := K) (st := st) nodes port (fun _ _ => true) (fun _ _ => true) := by
  intro i j ni nj s s' ei ej _ _ _ _; rfl

section
variable {T : Table D} {K : Nat} {st : Bool} {join0 : D → D → Bool} {nodes1 : List (Node D)}
  {port1 : Nat → Dir → Nat × Dir} {mem1 : Nat → List Nat} {lk1 : Walk.Link}
  (pg1 : PGraph T K st join0 nodes1 port1 mem1 lk1)
include pg1

/-- side `s` of a new node is the port of the old node `p.1` at that end of its path, on that node's outer side `p.2`; the
    old node lies as stored when `p.2 = s` and reverse-complemented otherwise -/
theorem new_node_port (s : Dir) (nd : Node D) (path : List (Nat × Dir))
    (hw : windowsOf K nd.seq = path.flatMap (orientedKmers (⟨K, nodes1, st⟩ : G D)))
    (hdirs : st = true → ∀ q ∈ path, q.2 = Dir.L) (p : Nat × Dir) (he : AtEnd path s p) (nY : Node D)
    (hY : nodes1[p.1]? = some nY) (hex : ∀ b, has nd.exts s b ↔ has nY.exts p.2 (if p.2 = s then b else comp b)) :
    K ≤ nd.seq.length ∧ ∃ e, NodePort T K st nd s (port1 p.1 p.2) e := by
  obtain ⟨Y, σ⟩ := p
  have hstr : st = true → σ = s := fun hst => by
    obtain ⟨q, hq, -, h⟩ := he.mem
    exact h (hdirs hst q hq)
  obtain ⟨hlen, hterm⟩ := termKmer_of_path K st nodes1 pg1.len nd path hw s (Y, σ) nY hY he
  obtain ⟨e, npY⟩ := pg1.np Y nY σ hY
  refine ⟨hlen, e, npY.ent, ?_, ?_, fun hst => (npY.strand hst).trans (hstr hst)⟩
  · rw [hterm]
    rcases Walk.dir_cases s σ with rfl | rfl
    · rw [if_pos rfl]; exact npY.term
    · have hne : σ ≠ σ.flip := by cases σ <;> decide
      rw [if_neg hne, termKmer_rc K nY.seq _ (pg1.len Y nY hY), Dir.flip_flip, npY.term]
      rcases Walk.dir_cases (port1 Y σ).2 σ with hp | hp
      · rw [if_pos hp, if_neg (by rw [hp]; exact hne)]
      · rw [if_neg (by rw [hp]; exact hne.symm), if_pos hp, rc_rc]
  · intro b
    rw [hex b, npY.exts]
    cases s <;> cases σ <;> cases hp : (port1 Y _).2 <;> simp [comp_comp]

/-- the canonical k-mers of a node whose k-mers are those of a path of old nodes are the table keys at the positions
    `memOf` lists -/
theorem memOf_keys (nd : Node D) (path : List (Nat × Dir))
    (hw : windowsOf K nd.seq = path.flatMap (orientedKmers (⟨K, nodes1, st⟩ : G D)))
    (hlt : ∀ q ∈ path, q.1 < nodes1.length) (hdirs : st = true → ∀ q ∈ path, q.2 = Dir.L) :
    (windowsOf K nd.seq).map (fun w => (canonOf st w).1) = (memOf mem1 path).map (keyOf T) := by
  refine (canonKeys_of_path (⟨K, nodes1, st⟩ : G D) st path nd hw (fun q _ nq hnq => pg1.len q.1 nq hnq) hdirs).trans ?_
  unfold memOf
  rw [List.map_flatMap]
  apply List.flatMap_congr_mem
  intro q hq
  have hnq := List.getElem?_eq_getElem (hlt q hq)
  show (match nodes1[q.1]? with | some nq => _ | none => _) = _
  rw [hnq]
  unfold canonKeys
  cases q.2 <;> simp only [if_true, if_false, reduceCtorEq, pg1.keys q.1 _ hnq, List.map_reverse]

theorem memOf_nodup (path : List (Nat × Dir)) (hnd : (path.map Prod.fst).Nodup) (hlt : ∀ q ∈ path, q.1 < nodes1.length) :
    (memOf mem1 path).Nodup := by
  unfold memOf
  apply nodup_flatMap_fst mem1 _ (mem_oriented mem1)
    (fun q hq => by
      split
      · exact hq
      · exact Walk.nodup_reverse' hq) path hnd
    (fun q hq => pg1.nodupM q.1 (hlt q hq))
    (fun q hq q' hq' z hz hz' => pg1.disjoint q.1 q'.1 (hlt q hq) (hlt q' hq') z hz hz')

variable (wf : WF T K st) (hes2 : ExtSym2 T st) (hcl : Closed T st)
  (hx8 : ∀ (i : Nat) (n : Node D), nodes1[i]? = some n → n.exts.val < 256)
include wf hes2 hcl hx8

/-- **ports inside a new node.** If every end port of an old node on the path, other than the two end ports `eL`, `eR` of
    the path, is linked at node level to a node on the path whose facing port is again neither `eL` nor `eR`, then every
    k-mer port of the new node other than the k-mer ports of `eL` and `eR` is linked likewise at k-mer level. -/
theorem memOf_inner (path : List (Nat × Dir)) (hlt : ∀ q ∈ path, q.1 < nodes1.length) (eL eR : Nat × Dir)
    (hL : eL.1 < nodes1.length) (hR : eR.1 < nodes1.length)
    (hin : ∀ q ∈ path, ∀ s, (q.1, s) ≠ eL → (q.1, s) ≠ eR → ∃ Y' d',
      glinkV (⟨K, nodes1, st⟩ : G D) st (fun _ _ => true) (List.range nodes1.length) q.1 s = some (Y', d') ∧ Y' ∈ ids path ∧
        (Y', d'.flip) ≠ eL ∧ (Y', d'.flip) ≠ eR) :
    ∀ w ∈ memOf mem1 path, ∀ δ, (w, δ) ≠ port1 eL.1 eL.2 → (w, δ) ≠ port1 eR.1 eR.2 →
      ∃ w' d', linkOf T st (fun _ _ => true) w δ = some (w', d') ∧ w' ∈ memOf mem1 path ∧
        (w', d'.flip) ≠ port1 eL.1 eL.2 ∧ (w', d'.flip) ≠ port1 eR.1 eR.2 := by
  intro w hw δ hwL hwR
  obtain ⟨q, hq, hwq⟩ := (mem_memOf mem1 path w).mp hw
  by_cases hB : ∃ s, (w, δ) = port1 q.1 s
  · -- an end port of the old node that is not an end of the new node: it is joined to the next old node
    obtain ⟨s, hs'⟩ := hB
    obtain ⟨Y', d', hl, hY', n1, n2⟩ := hin q hq s (fun e => hwL (by rw [hs', ← e])) (fun e => hwR (by rw [hs', ← e]))
    have hkl := pg1.glink_to_link wf hes2 hcl hx8 _ _ (joinCompat_true T K st nodes1 port1) _ q.1 s Y' d' hl
    rw [← hs'] at hkl
    obtain ⟨q', hq', e'⟩ := List.mem_map.mp hY'
    have hY'lt : Y' < nodes1.length := e' ▸ hlt q' hq'
    refine ⟨(port1 Y' d'.flip).1, (port1 Y' d'.flip).2.flip, hkl,
      (mem_memOf mem1 path _).mpr ⟨q', hq', by rw [e']; exact pg1.portMem Y' d'.flip hY'lt⟩, ?_, ?_⟩
    · rw [Dir.flip_flip]
      exact fun he => n1 (pg1.port_inj Y' _ d'.flip _ hY'lt hL he)
    · rw [Dir.flip_flip]
      exact fun he => n2 (pg1.port_inj Y' _ d'.flip _ hY'lt hR he)
  · obtain ⟨w', d', h1, h2, h3⟩ := pg1.inner_link q.1 (hlt q hq) w hwq δ (fun s h => hB ⟨s, h⟩)
    exact ⟨w', d', linkOf_mono join0 _ (fun _ _ _ => rfl) w δ _ (pg1.lkSub _ _ _ _ h1),
      (mem_memOf mem1 path _).mpr ⟨q, hq, h2⟩, h3 _ _ hL, h3 _ _ hR⟩

/-- **the k-mer chain of a re-compressed node**: the chains of the old nodes on its path, each read in the orientation
    in which the old node lies in the new one, joined by the k-mer-level good links that the node-level good links are -/
theorem new_chain (csn : List (Nat × Dir)) (hne : csn ≠ [])
    (hoc : OChain (glinkV (⟨K, nodes1, st⟩ : G D) st (fun _ _ => true) (List.range nodes1.length)) csn)
    (hlt : ∀ c ∈ csn, c.1 < nodes1.length) :
    ∃ cs : List (Nat × Dir),
      cs.map Prod.fst = memOf mem1 (csn.map CompressGraph.flip2) ∧
      OChain (linkOf T st (fun _ _ => true)) cs ∧
      cs.head?.map flip2 = some (pathPort port1 (csn.map CompressGraph.flip2) .L) ∧
      cs.getLast? = some (pathPort port1 (csn.map CompressGraph.flip2) .R) := by
  have hsymT : Walk.Sym (linkOf T st (fun (_ _ : D) => true)) := linkOf_sym wf hes2.toExtSym (fun _ _ => rfl)
  have hmono : ∀ x d r, lk1 x d = some r → linkOf T st (fun (_ _ : D) => true) x d = some r :=
    fun x d r h => linkOf_mono join0 _ (fun _ _ _ => rfl) x d r (pg1.lkSub x d r.1 r.2 h)
  have hjc := joinCompat_true T K st nodes1 port1
  have hex : ∀ c : Nat × Dir, ∃ l : List (Nat × Dir), c.1 < nodes1.length →
      OChain (linkOf T st (fun _ _ => true)) l ∧ l ≠ [] ∧ l.map Prod.fst = (if c.2 = Dir.R then mem1 c.1 else (mem1 c.1).reverse) ∧
      l.head? = some (flip2 (port1 c.1 c.2.flip)) ∧ l.getLast? = some (port1 c.1 c.2) := by
    intro c
    by_cases hc : c.1 < nodes1.length
    · obtain ⟨cs, h⟩ := (pg1.node (List.getElem?_eq_getElem hc)).chain_towards hmono hsymT c.2
      exact ⟨cs, fun _ => h⟩
    · exact ⟨[], fun h => absurd h hc⟩
  obtain ⟨och, hends⟩ := Classical.axiomOfChoice hex
  have hallends : ∀ c ∈ csn, OChain (linkOf T st (fun _ _ => true)) (och c) ∧ och c ≠ [] := fun c hc =>
    ⟨(hends c (hlt c hc)).1, (hends c (hlt c hc)).2.1⟩
  have hjoin : Joined (linkOf T st (fun _ _ => true)) och csn := by
    refine joined_of_ochain (α := Nat) _ _ och (fun c c' hl => ?_) csn hoc
    obtain ⟨hcv, hc'v, _⟩ := CompressGraph.glinkV_some _ st _ _ c.1 c.2 c'.1 c'.2 hl
    have hcl' := List.mem_range.mp hcv
    have hc'l := List.mem_range.mp hc'v
    have hkl := pg1.glink_to_link wf hes2 hcl hx8 _ _ hjc _ c.1 c.2 c'.1 c'.2 hl
    refine ⟨port1 c.1 c.2, flip2 (port1 c'.1 c'.2.flip), (hends c hcl').2.2.2.2, (hends c' hc'l).2.2.2.1, ?_⟩
    rw [hkl]
    rfl
  refine ⟨csn.flatMap och, ?_, ochain_flatMap _ och csn hallends hjoin, ?_, ?_⟩
  · rw [memOf_map_flip2, List.map_flatMap]
    apply List.flatMap_congr_mem
    intro c hc
    exact (hends c (hlt c hc)).2.2.1
  · cases csn with
    | nil => exact absurd rfl hne
    | cons c0 t =>
      have hc0 : c0.1 < nodes1.length := hlt c0 (List.mem_cons_self ..)
      rw [head?_flatMap_cons och c0 t (hends c0 hc0).2.1, (hends c0 hc0).2.2.2.1, Option.map_some, flip2_flip2]
      rfl
  · obtain ⟨front, cm, rfl⟩ : ∃ front cm, csn = front ++ [cm] := ⟨_, _, (List.dropLast_concat_getLast hne).symm⟩
    have hcm : cm.1 < nodes1.length := hlt cm (by simp)
    rw [getLast?_flatMap_snoc och front cm (hends cm hcm).2.1, (hends cm hcm).2.2.2.2,
      AtEnd.pathPort port1 (s := .R) (p := cm) ⟨front.map CompressGraph.flip2, by rw [List.map_append]; rfl⟩]

/-- **one node of the re-compressed graph is a ported node** over the same table, with the ports of the old nodes at
    the two ends of its path -/
theorem recompress_node_ok (hr : RInv (⟨K, nodes1, st⟩ : G D) (List.range nodes1.length)) (reduce : D → D → D)
    (avail : List Nat) (hav : ∀ z ∈ avail, z ∈ List.range nodes1.length) (seed : Nat) (hs : seed ∈ avail) :
    ∃ nd path a', buildNode (⟨K, nodes1, st⟩ : G D) st (fun _ _ => true) reduce avail seed = some (nd, path, a') ∧
      PNode T K st (linkOf T st (fun _ _ => true)) nd (pathPort port1 path) (memOf mem1 path) := by
  obtain ⟨link, hlink⟩ : ∃ link, link = glinkV (⟨K, nodes1, st⟩ : G D) st (fun _ _ => true) (List.range nodes1.length) :=
    ⟨_, rfl⟩
  have hsym : Walk.Sym link :=
    hlink ▸ CompressGraph.glinkV_sym _ (List.range nodes1.length) hr st rfl (fun _ _ => true) (fun _ _ => rfl)
  have hseedlt : seed < nodes1.length := List.mem_range.mp (hav seed hs)
  obtain ⟨lw, hlw⟩ : ∃ lw, Walk.walk link (rm avail seed) seed .L = lw := ⟨_, rfl⟩
  obtain ⟨rw, hrw⟩ : ∃ rw, Walk.walk link lw.2 seed .R = rw := ⟨_, rfl⟩
  obtain ⟨nd', hb, hend⟩ := CompressGraph.buildNode_ports (⟨K, nodes1, st⟩ : G D) (List.range nodes1.length) hr st rfl
    (fun _ _ => true) reduce avail hav seed hs (by show (nodes1[seed]?).isSome; rw [List.getElem?_eq_getElem hseedlt]; rfl)
    lw rw (by rw [← hlink]; exact hlw) (by rw [← hlink]; exact hrw)
  -- `E s`: the old node where the walk to side `s` stopped, with its outer side
  obtain ⟨E, hE⟩ : ∃ E, walkEnd lw.1 rw.1 seed = E := ⟨_, rfl⟩
  rw [hE] at hend
  have ok := Walk.build_ok link hsym avail seed hs
  obtain ⟨path, hpath⟩ : ∃ path, path = (nodeChain lw.1 rw.1 seed).map CompressGraph.flip2 := ⟨_, rfl⟩
  obtain ⟨hids, hoc, hEnd, hEne, hinner⟩ := build_path link hsym avail seed hs lw rw hlw hrw E hE
  rw [← hpath] at hb hids hEnd
  obtain ⟨hgw, hchain, -⟩ := CompressGraph.buildNode_kmers (⟨K, nodes1, st⟩ : G D) wf.kpos pg1.len st (fun _ _ => true)
    reduce avail seed nd' path _ hb
  have hdirs : st = true → ∀ q ∈ path, q.2 = Dir.L := fun hst q hq =>
    CompressGraph.isChain_dirs (⟨K, nodes1, st⟩ : G D) hst path hchain q hq (seed, Dir.L)
      (CompressGraph.buildNode_has_seed _ st _ reduce avail seed nd' path _ hb)
  have hbuilt : ∀ q ∈ path, q.1 ∈ (Walk.build link avail seed).1 := fun q hq => hids ▸ List.mem_map_of_mem hq
  have hpathlt : ∀ q ∈ path, q.1 < nodes1.length := fun q hq => List.mem_range.mp (hav _ (ok.ids _ (hbuilt q hq)))
  have hElt : ∀ s, (E s).1 < nodes1.length := by
    intro s
    obtain ⟨q, hq, e, -⟩ := (hEnd s).mem
    rw [← e]
    exact hpathlt q hq
  have np : ∀ s, K ≤ nd'.seq.length ∧ ∃ e, NodePort T K st nd' s (port1 (E s).1 (E s).2) e := by
    intro s
    obtain ⟨ns, hns, hex⟩ := hend s
    exact new_node_port pg1 s nd' path hgw hdirs (E s) (hEnd s) ns hns hex
  have hlen := (np .L).1
  have pmem : ∀ s, (port1 (E s).1 (E s).2).1 ∈ memOf mem1 path := by
    intro s
    obtain ⟨q, hq, e, -⟩ := (hEnd s).mem
    exact (mem_memOf mem1 path _).mpr ⟨q, hq, by rw [e]; exact pg1.portMem _ _ (hElt s)⟩
  have hle : ∀ a b, join0 a b = true → (fun (_ _ : D) => true) a b = true := fun _ _ _ => rfl
  have hjc := joinCompat_true T K st nodes1 port1
  have hpp : pathPort port1 path = fun s => port1 (E s).1 (E s).2 := funext fun s => (hEnd s).pathPort port1
  refine ⟨nd', path, _, hb, ?_⟩
  rw [hpp]
  refine ⟨hlen, fun s => (np s).2, ?_, memOf_keys pg1 nd' path hgw hpathlt hdirs,
    memOf_nodup pg1 path (by have := ok.nodup; rw [← hids] at this; exact this) hpathlt, ?_, pmem,
    fun he => hEne (pg1.port_inj _ _ _ _ (hElt .L) (hElt .R) he), ?_, ?_, ?_⟩
  -- a palindromic k-mer at an end: the new node is that single old node
  · intro s e hnp hstf hrc
    subst hstf
    -- the old node at that end is a palindromic single-k-mer node
    obtain ⟨nY, hnY, -⟩ := hend s
    obtain ⟨e', npY⟩ := pg1.np (E s).1 nY (E s).2 hnY
    cases Option.some.inj (npY.ent.symm.trans hnp.ent)
    obtain ⟨hlY, hrcY, hportsY⟩ := pg1.pal (E s).1 nY (E s).2 _ hnY npY rfl hrc
    have hnone : ∀ d, link (E s).1 d = none := fun d => hlink ▸ glinkV_pal_none _ _ _ (E s).1 nY hnY hlY hrcY d
    -- no link enters or leaves that node, so both walks are empty and the node is the seed
    obtain ⟨hone, hEt⟩ := walks_nil_of_isolated link hsym avail seed lw rw hlw hrw E hE s hnone
    rw [hEt s] at hnY hportsY
    have hseq : nd'.seq = nY.seq := by
      apply seq_eq_of_windows_single K _ _ hlen hlY
      rw [hgw, hpath, hone]
      exact (List.append_nil _).trans (orientedKmers_eq K false nodes1 seed .L nY hnY)
    refine ⟨by rw [hseq]; exact hlY, by rw [hseq]; exact hrcY, fun t => ?_⟩
    rw [hEt t, hEt s]
    exact hportsY t
  · intro z hz
    obtain ⟨q, hq, hzq⟩ := (mem_memOf mem1 path z).mp hz
    exact pg1.inRange q.1 (hpathlt q hq) z hzq
  · rw [← hids, hlink] at hinner
    exact memOf_inner pg1 wf hes2 hcl hx8 path hpathlt (E .L) (E .R) (hElt .L) (hElt .R) fun q hq =>
      hinner q.1 (List.mem_map_of_mem hq)
  · intro x hx y hy
    obtain ⟨q, hq, hxq⟩ := (mem_memOf mem1 path x).mp hx
    obtain ⟨q', hq', hyq⟩ := (mem_memOf mem1 path y).mp hy
    have hc : Conn link q.1 q'.1 := Conn.trans _ (Conn.symm _ hsym (ok.conn _ (hbuilt q hq))) (ok.conn _ (hbuilt q' hq'))
    rw [hlink] at hc
    exact (pg1.conn_kmers_of_nodes wf hes2 hcl hx8 _ _ hjc hle q.1 q'.1 hc (hpathlt q hq)).2 x hxq y hyq
  · rw [hlink] at hoc
    have hch := new_chain pg1 wf hes2 hcl hx8 (nodeChain lw.1 rw.1 seed) (by unfold nodeChain; simp) hoc
      (fun c hc => hpathlt (CompressGraph.flip2 c) (by rw [hpath]; exact List.mem_map_of_mem hc))
    rw [← hpath, hpp] at hch
    exact hch

end

end Compress
