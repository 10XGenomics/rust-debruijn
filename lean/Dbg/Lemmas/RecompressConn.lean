import Dbg.Lemmas.Recompress
/-! Connectivity: nodes joined by node-level good links = k-mers joined by k-mer-level good links of the pruned table. -/
namespace Compress
open Walk (Dir rm Conn Rel)
open Filter (has hasExt_iff ExtSym2 removeCensoredExts)
open Graph (termKmer findLink searchKmer fixExts)
open CompressGraph (glinkV glinkV_some)
variable {D : Type}

theorem linkOf_mono {T : Table D} {st : Bool} (join0 joinK : D → D → Bool) (hle : ∀ a b, join0 a b = true → joinK a b = true)
    (x : Nat) (d : Dir) (r : Nat × Dir) (h : linkOf T st join0 x d = some r) : linkOf T st joinK x d = some r := by
  obtain ⟨y, d'⟩ := r
  obtain ⟨ex, ey, b, f⟩ := linkOf_inv T st join0 h
  exact linkOf_intro T st joinK ⟨f.hx, f.cntx, f.palx, f.uniq, f.hfind, f.hy, f.hd', f.cnty, hle _ _ f.hjoin, f.paly⟩

section
variable {T : Table D} {K : Nat} {st : Bool} {join0 : D → D → Bool} {nodes : List (Node D)}
  {port : Nat → Dir → Nat × Dir} {members : Nat → List Nat} {lk : Walk.Link}

theorem PGraph.members_conn (pg : PGraph T K st join0 nodes port members lk) (joinK : D → D → Bool)
    (hle : ∀ a b, join0 a b = true → joinK a b = true) (i : Nat) (hi : i < nodes.length) (x y : Nat)
    (hx : x ∈ members i) (hy : y ∈ members i) : Conn (linkOf T st joinK) x y := by
  have := conn_map lk (linkOf T st joinK) (fun z => z) (fun z z' ⟨d, d', hr⟩ =>
    ⟨d, d', linkOf_mono join0 joinK hle z d _ (pg.lkSub _ _ _ _ hr)⟩) x y (pg.connM i hi x hx y hy)
  exact this

theorem PGraph.conn_nodes_of_kmers (pg : PGraph T K st join0 nodes port members lk) (wf : WF T K st) (hes2 : ExtSym2 T st)
    (hx8 : ∀ (i : Nat) (n : Node D), nodes[i]? = some n → n.exts.val < 256)
    (join joinK : D → D → Bool) (hjc : JoinCompat (U := T) (K := K) (st := st) nodes port join joinK)
    (hle : ∀ a b, join0 a b = true → joinK a b = true)
    (x y : Nat) (hc : Conn (linkOf T st joinK) x y) (X : Nat) (hX : X < nodes.length) (hxX : x ∈ members X) :
    ∃ Y, Y < nodes.length ∧ y ∈ members Y ∧
      Conn (glinkV (⟨K, nodes, st⟩ : Graph.G D) st join (List.range nodes.length)) X Y := by
  induction hc with
  | refl => exact ⟨X, hX, hxX, Conn.refl _⟩
  | @step z y _ r ih =>
    obtain ⟨Z, hZ, hzZ, hcZ⟩ := ih
    obtain ⟨d, d', hl⟩ := r
    by_cases hp : ∃ s, (z, d) = port Z s
    · obtain ⟨s, hs⟩ := hp
      have hl' : linkOf T st joinK (port Z s).1 (port Z s).2 = some (y, d') := by rw [← hs]; exact hl
      obtain ⟨Y, o, hg, hp⟩ := pg.link_to_glink wf hes2 hx8 join joinK hjc Z hZ s y d' hl'
      obtain ⟨_, hYv, _⟩ := glinkV_some _ st join _ Z s Y o hg
      have hYlt : Y < nodes.length := List.mem_range.mp hYv
      refine ⟨Y, hYlt, ?_, Conn.step hcZ ⟨s, o, hg⟩⟩
      have := pg.portMem Y o.flip hYlt
      rw [hp] at this; exact this
    · -- a link that leaves no port of `Z` stays inside `Z`
      obtain ⟨w', dw, h1, h2, _, _⟩ := pg.inner Z hZ z hzZ d (fun h => hp ⟨.L, h⟩) (fun h => hp ⟨.R, h⟩)
      have h3 := linkOf_mono join0 joinK hle z d _ (pg.lkSub _ _ _ _ h1)
      rw [hl] at h3
      have : y = w' := by have := Option.some.inj h3; exact congrArg Prod.fst this
      subst this
      exact ⟨Z, hZ, h2, hcZ⟩

theorem PGraph.conn_kmers_of_nodes (pg : PGraph T K st join0 nodes port members lk) (wf : WF T K st) (hes2 : ExtSym2 T st)
    (hcl : Closed T st) (hx8 : ∀ (i : Nat) (n : Node D), nodes[i]? = some n → n.exts.val < 256)
    (join joinK : D → D → Bool) (hjc : JoinCompat (U := T) (K := K) (st := st) nodes port join joinK)
    (hle : ∀ a b, join0 a b = true → joinK a b = true)
    (X Y : Nat) (hc : Conn (glinkV (⟨K, nodes, st⟩ : Graph.G D) st join (List.range nodes.length)) X Y) (hX : X < nodes.length) :
    Y < nodes.length ∧ ∀ x ∈ members X, ∀ y ∈ members Y, Conn (linkOf T st joinK) x y := by
  induction hc with
  | refl => exact ⟨hX, fun x hx y hy => pg.members_conn joinK hle X hX x y hx hy⟩
  | @step Z Y _ r ih =>
    obtain ⟨hZ, hcZ⟩ := ih
    obtain ⟨d, o, hg⟩ := r
    obtain ⟨_, hYv, _⟩ := glinkV_some _ st join _ Z d Y o hg
    have hYlt : Y < nodes.length := List.mem_range.mp hYv
    have hl := pg.glink_to_link wf hes2 hcl hx8 join joinK hjc _ Z d Y o hg
    refine ⟨hYlt, fun x hx y hy => ?_⟩
    have h1 := hcZ x hx (port Z d).1 (pg.portMem Z d hZ)
    have h2 : Conn (linkOf T st joinK) (port Z d).1 (port Y o.flip).1 := Conn.step (Conn.refl _) ⟨_, _, hl⟩
    have h3 := pg.members_conn joinK hle Y hYlt (port Y o.flip).1 y (pg.portMem Y o.flip hYlt) hy
    exact Conn.trans _ (Conn.trans _ h1 h2) h3

end

end Compress

namespace Compress
open Walk (Dir rm Conn Rel)
open Filter (has hasExt_iff ExtSym2 removeCensoredExts)
open Graph (termKmer findLink searchKmer fixExts)
open CompressGraph (glinkV glinkV_some ids)
variable {D : Type}

theorem graph_eta (g : Graph.G D) (K : Nat) (st : Bool) (h1 : g.K = K) (h2 : g.stranded = st) : g = ⟨K, g.nodes, st⟩ := by
  cases g; simp_all

theorem compress_nonempty (link : Walk.Link) : ∀ (is avail : List Nat), ∀ N ∈ Walk.compress link is avail, N ≠ [] := by
  intro is
  induction is with
  | nil => intro avail N h; simp [Walk.compress] at h
  | cons i is ih =>
    intro avail N h
    simp only [Walk.compress] at h
    by_cases hi : i ∈ avail
    · simp only [hi, if_true] at h
      rcases List.mem_cons.mp h with rfl | h'
      · unfold Walk.build; simp
      · exact ih _ N h'
    · simp only [hi, if_false] at h
      exact ih _ N h

/-- a ported graph after `fix_exts` over all its nodes: as many nodes, ported into the pruned table, with the invariants
    the walks of `compress_graph` need -/
theorem PGraph.pruned {U : Table D} {K : Nat} {st : Bool} {join0 : D → D → Bool} {nodes : List (Node D)}
    {port : Nat → Dir → Nat × Dir} {members : Nat → List Nat} {lk : Walk.Link}
    (pg : PGraph U K st join0 nodes port members lk) (wf : WF U K st) (hes2 : ExtSym2 U st) :
    ∃ nodes1, fixExts (⟨K, nodes, st⟩ : Graph.G D) (some (List.range nodes.length)) = ⟨K, nodes1, st⟩ ∧
      nodes1.length = nodes.length ∧ PGraph (removeCensoredExts st U) K st join0 nodes1 port members lk ∧
      WF (removeCensoredExts st U) K st ∧ ExtSym2 (removeCensoredExts st U) st ∧
      (∀ (i : Nat) (n : Node D), nodes1[i]? = some n → n.exts.val < 256) ∧
      CompressGraph.RInv (⟨K, nodes1, st⟩ : Graph.G D) (List.range nodes1.length) := by
  have pg1 := pgraph_fix pg wf hes2 (some (List.range nodes.length)) (fun t ht => by simpa using ht)
  have hr := CompressGraph.rinv_fixExts (⟨K, nodes, st⟩ : Graph.G D) (pg.ginv wf hes2)
    (fun i n s hst hi hrc => pg.palEnd i n s hst hi hrc) (List.range nodes.length)
  have sh := CompressGraph.fixExts_shape (⟨K, nodes, st⟩ : Graph.G D) (some (List.range nodes.length))
  have hx8 := CompressGraph.fixExts_x8 (⟨K, nodes, st⟩ : Graph.G D) (some (List.range nodes.length))
  generalize fixExts (⟨K, nodes, st⟩ : Graph.G D) (some (List.range nodes.length)) = g1 at *
  have heta := graph_eta g1 K st sh.1 sh.2.1
  have hlen1 : g1.nodes.length = nodes.length := CompressGraph.shape_length _ g1 sh
  refine ⟨g1.nodes, heta, hlen1, pg1, Filter.wf_removeCensored st U K wf, Filter.extSym2_removeCensored st U K wf hes2, hx8, ?_⟩
  rw [← heta, hlen1]
  exact hr

/-- **re-compression of a ported graph.**  For a graph ported into a well-formed reciprocal table `U` (in particular the
    concatenation of the graphs built from key-disjoint shards of `U`), with constantly-true join predicates (the crate's
    `SimpleCompress`): `compress_graph` returns, every old node lies on a path, and two old nodes lie on the same path —
    are merged into the same new node — **iff** their k-mers are joined by good links of the *pruned* table `U`. -/
theorem pgraph_recompress {U : Table D} {K : Nat} {st : Bool} {join0 : D → D → Bool} {nodes : List (Node D)}
    {port : Nat → Dir → Nat × Dir} {members : Nat → List Nat} {lk : Walk.Link}
    (pg : PGraph U K st join0 nodes port members lk) (wf : WF U K st) (hes2 : ExtSym2 U st)
    (reduce : D → D → D) (join joinK : D → D → Bool) (hjT : ∀ a b, join a b = true) (hjK : ∀ a b, joinK a b = true) :
    ∃ g' paths, CompressGraph.compressGraph st (⟨K, nodes, st⟩ : Graph.G D) join reduce [] = some (g', paths) ∧
      (∀ p ∈ paths, p ≠ []) ∧
      ∀ X Y, X < nodes.length → Y < nodes.length →
        (((∃ p ∈ paths, X ∈ ids p ∧ Y ∈ ids p) ↔
          ∀ x ∈ members X, ∀ y ∈ members Y, Conn (linkOf (removeCensoredExts st U) st joinK) x y) ∧
         ((∃ p ∈ paths, X ∈ ids p ∧ Y ∈ ids p) ↔
          ∃ x ∈ members X, ∃ y ∈ members Y, Conn (linkOf (removeCensoredExts st U) st joinK) x y)) := by
  have hg := pg.ginv wf hes2
  have hpe : CompressGraph.PalEnd (⟨K, nodes, st⟩ : Graph.G D) := fun i n s hst hi hrc => pg.palEnd i n s hst hi hrc
  have hj : ∀ a b, join a b = join b a := fun a b => by rw [hjT, hjT]
  have hrec := CompressGraph.C09_char (⟨K, nodes, st⟩ : Graph.G D) hg hpe join hj reduce []
  unfold CompressGraph.Recompressed at hrec
  have hvalid : ((List.range (⟨K, nodes, st⟩ : Graph.G D).nodes.length).filter fun i => !([] : List Nat).contains i) = List.range nodes.length := by
    simp
  rw [hvalid] at hrec
  obtain ⟨g', paths, hcg, hpaths, hconn⟩ := hrec
  refine ⟨g', paths, hcg, ?_, ?_⟩
  · intro p hp he
    have : ids p ∈ paths.map ids := List.mem_map_of_mem hp
    rw [hpaths] at this
    exact compress_nonempty _ _ _ _ this (by rw [he]; rfl)
  obtain ⟨nodes1, hg1, hlen1, pg1, wf1, hes1, hx8, -⟩ := pg.pruned wf hes2
  have hjc : JoinCompat (U := removeCensoredExts st U) (K := K) (st := st) nodes1 port join joinK := by
    intro i j ni nj s s' ei ej _ _ _ _; rw [hjT, hjK]
  have hle : ∀ a b, join0 a b = true → joinK a b = true := fun a b _ => hjK a b
  intro X Y hX hY
  have hst0 : (⟨K, nodes, st⟩ : Graph.G D).stranded = st := rfl
  rw [hst0, hg1, ← hlen1] at hconn
  rw [← hlen1] at hX hY
  rw [← hconn X Y (List.mem_range.mpr hX) (List.mem_range.mpr hY)]
  have fwd := fun hc => (pg1.conn_kmers_of_nodes wf1 hes1 (closed_pruned st U) hx8 join joinK hjc hle X Y hc hX).2
  have bwd : (∃ x ∈ members X, ∃ y ∈ members Y, Conn (linkOf (removeCensoredExts st U) st joinK) x y) →
      Conn (glinkV (⟨K, nodes1, st⟩ : Graph.G D) st join (List.range nodes1.length)) X Y := by
    rintro ⟨x, hx, y, hy, hxy⟩
    obtain ⟨Y', hY', hyY', hc⟩ := pg1.conn_nodes_of_kmers wf1 hes1 hx8 join joinK hjc hle _ _ hxy X hX hx
    have := pg1.disjoint Y Y' hY hY' _ hy hyY'
    subst this
    exact hc
  have hx := pg1.portMem X .L hX
  have hy := pg1.portMem Y .L hY
  exact ⟨⟨fwd, fun hall => bwd ⟨_, hx, _, hy, hall _ hx _ hy⟩⟩, ⟨fun hc => ⟨_, hx, _, hy, fwd hc _ hx _ hy⟩, bwd⟩⟩

end Compress
