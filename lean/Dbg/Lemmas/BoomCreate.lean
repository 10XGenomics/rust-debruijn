import Dbg.Model.Boom
/-! `create_map` (cycle sort by a minimal perfect hash) terminates, permutes the pairs and leaves every pair in its slot. -/
namespace Boom
open Compress (Seq)

abbrev Pairs (V : Type) := Array (Seq × V)

variable {V : Type}

def ind (th : Seq → Option Nat) (ps : Pairs V) (j : Nat) : Nat :=
  if (ps[j]?.bind fun p => th p.1) = some j then 0 else 1

/-- the measure that every swap of `settle` decreases: the number of slots below `n` not holding their own pair -/
def cnt (th : Seq → Option Nat) (ps : Pairs V) : Nat → Nat
  | 0 => 0
  | n + 1 => cnt th ps n + ind th ps n

theorem ind_le (th : Seq → Option Nat) (ps : Pairs V) (j : Nat) : ind th ps j ≤ 1 := by unfold ind; split <;> omega

theorem cnt_le (th : Seq → Option Nat) (ps : Pairs V) (n : Nat) : cnt th ps n ≤ n := by
  induction n with
  | zero => simp [cnt]
  | succ n ih => have := ind_le th ps n; simp only [cnt]; omega

theorem ite_lt_succ (x n u : Nat) (h : n ≠ x) : (if x < n + 1 then u else 0) = (if x < n then u else 0) := by
  by_cases h1 : x < n
  · simp [h1, Nat.lt_succ_of_lt h1]
  · have : ¬ x < n + 1 := by omega
    simp [h1, this]

theorem cnt_change (th : Seq → Option Nat) (ps ps' : Pairs V) (a b : Nat) (hab : a ≠ b)
    (hsame : ∀ j, j ≠ a → j ≠ b → ps'[j]? = ps[j]?) (n : Nat) :
    cnt th ps' n + (if a < n then ind th ps a else 0) + (if b < n then ind th ps b else 0)
      = cnt th ps n + (if a < n then ind th ps' a else 0) + (if b < n then ind th ps' b else 0) := by
  induction n with
  | zero => simp [cnt]
  | succ n ih =>
    simp only [cnt]
    have e : n ≠ a → n ≠ b → ind th ps' n = ind th ps n := by
      intro h1 h2; unfold ind; rw [hsame n h1 h2]
    by_cases h1 : n = a
    · subst h1
      rw [ite_lt_succ b n _ hab, ite_lt_succ b n _ hab]
      simp only [Nat.lt_irrefl, Nat.lt_succ_self, if_true, if_false] at ih ⊢
      omega
    · by_cases h2 : n = b
      · subst h2
        rw [ite_lt_succ a n _ h1, ite_lt_succ a n _ h1]
        simp only [Nat.lt_irrefl, Nat.lt_succ_self, if_true, if_false] at ih ⊢
        omega
      · rw [ite_lt_succ a n _ h1, ite_lt_succ a n _ h1, ite_lt_succ b n _ h2, ite_lt_succ b n _ h2, e h1 h2]
        omega

def Ranked (th : Seq → Option Nat) (ps : Pairs V) : Prop := ∀ p ∈ ps.toList, ∃ s, th p.1 = some s ∧ s < ps.size
def Inj (th : Seq → Option Nat) (ps : Pairs V) : Prop := ps.toList.Pairwise fun p q => th p.1 ≠ th q.1

theorem Inj.pos {th : Seq → Option Nat} {ps : Pairs V} (h : Inj th ps) (a b : Nat) (ha : a < ps.size) (hb : b < ps.size)
    (e : th ps[a].1 = th ps[b].1) : a = b := by
  have hnd : (ps.toList.map fun p => th p.1).Nodup := List.pairwise_map.mpr h
  apply (List.getElem?_inj (by simpa using ha) hnd).mp
  simp only [List.getElem?_map, Array.getElem?_toList, Array.getElem?_eq_getElem ha, Array.getElem?_eq_getElem hb,
    Option.map_some, e]

theorem ind_zero_iff (th : Seq → Option Nat) (ps : Pairs V) (j : Nat) (hj : j < ps.size) :
    ind th ps j = 0 ↔ th ps[j].1 = some j := by
  unfold ind
  rw [Array.getElem?_eq_getElem hj]
  simp only [Option.bind_some]
  split <;> simp_all

theorem ind_one_of_ne (th : Seq → Option Nat) (ps : Pairs V) (j : Nat) (hj : j < ps.size) (h : th ps[j].1 ≠ some j) :
    ind th ps j = 1 := by
  have := ind_le th ps j
  have := mt (ind_zero_iff th ps j hj).mp h
  omega

theorem Ranked.of_perm {th : Seq → Option Nat} {ps ps' : Pairs V} (hp : ps'.Perm ps) (h : Ranked th ps) : Ranked th ps' := by
  intro p hp'
  rw [show ps'.size = ps.size by simpa using (Array.perm_iff_toList_perm.mp hp).length_eq]
  exact h p ((Array.perm_iff_toList_perm.mp hp).mem_iff.mp hp')

theorem Inj.of_perm {th : Seq → Option Nat} {ps ps' : Pairs V} (hp : ps'.Perm ps) (h : Inj th ps) : Inj th ps' :=
  (Array.Perm.pairwise_iff (fun h => Ne.symm h) hp).mpr h

theorem slotted_of_ind (th : Seq → Option Nat) (ps : Pairs V) (h : ∀ j, j < ps.size → ind th ps j = 0) (pos : Nat) (k : Seq)
    (hk : (ps.toList.map (·.1))[pos]? = some k) : th k = some pos := by
  rw [List.getElem?_map, Option.map_eq_some_iff] at hk
  obtain ⟨p, hp, rfl⟩ := hk
  obtain ⟨hlt, rfl⟩ := List.getElem?_eq_some_iff.mp hp
  rw [Array.length_toList] at hlt
  rw [Array.getElem_toList]
  exact (ind_zero_iff th ps pos hlt).mp (h pos hlt)

theorem settle_spec (th : Seq → Option Nat) (i : Nat) : ∀ (fuel : Nat) (ps : Pairs V), Ranked th ps → Inj th ps → i < ps.size →
    cnt th ps ps.size < fuel →
    ∃ ps', settle th i fuel ps = some ps' ∧ ps'.Perm ps ∧ ind th ps' i = 0 ∧ (∀ j, ind th ps j = 0 → ind th ps' j = 0) := by
  intro fuel
  induction fuel with
  | zero => intro ps _ _ _ h; omega
  | succ fuel ih =>
    intro ps hr hinj hi hc
    obtain ⟨s, hs, hlt⟩ := hr ps[i] (by simp)
    unfold settle
    simp only [hi, dite_true, hs]
    by_cases his : i = s
    · rw [if_pos his]
      refine ⟨ps, by simp, Array.Perm.refl _, ?_, fun j h => h⟩
      subst his
      exact (ind_zero_iff th ps i hi).mpr hs
    · rw [if_neg his, dif_pos hlt]
      -- the swap puts `ps[i]` into its slot `s`, which held a foreign pair: one slot fewer is counted
      have hperm : (ps.swap i s hi hlt).Perm ps := Array.swap_perm hi hlt
      have hsz : (ps.swap i s hi hlt).size = ps.size := Array.size_swap
      have hsame : ∀ j, j ≠ i → j ≠ s → (ps.swap i s hi hlt)[j]? = ps[j]? := fun j h1 h2 => by
        rw [Array.getElem?_swap, if_neg (Ne.symm h2), if_neg (Ne.symm h1)]
      have hch := cnt_change th ps _ i s his hsame ps.size
      simp only [hi, hlt, if_true] at hch
      have h_i := ind_one_of_ne th ps i hi (by rw [hs]; exact fun h => his (Option.some.inj h).symm)
      have h_s := ind_one_of_ne th ps s hlt fun h => his (hinj.pos i s hi hlt (hs.trans h.symm))
      have h_s2 : ind th (ps.swap i s hi hlt) s = 0 := by
        rw [ind_zero_iff th _ s (hsz ▸ hlt)]
        simp [hs]
      have hle := ind_le th (ps.swap i s hi hlt) i
      obtain ⟨ps', e1, e2, e3, e4⟩ := ih _ (hr.of_perm hperm) (hinj.of_perm hperm) (hsz ▸ hi) (by rw [hsz]; omega)
      refine ⟨ps', e1, e2.trans hperm, e3, fun j hj => e4 j ?_⟩
      -- a slot that was in order is neither `i` nor `s`, and untouched
      have hji : j ≠ i := by rintro rfl; omega
      have hjs : j ≠ s := by rintro rfl; omega
      unfold ind at hj ⊢
      rwa [hsame j hji hjs]

theorem createLoop_spec (th : Seq → Option Nat) : ∀ (r i : Nat) (ps : Pairs V), Ranked th ps → Inj th ps → i + r = ps.size →
    (∀ j, j < i → ind th ps j = 0) →
    ∃ ps', createLoop th r i ps = some ps' ∧ ps'.Perm ps ∧ ∀ j, j < ps.size → ind th ps' j = 0 := by
  intro r
  induction r with
  | zero =>
    intro i ps _ _ hsum hfix
    exact ⟨ps, rfl, Array.Perm.refl _, fun j hj => hfix j (by omega)⟩
  | succ r ih =>
    intro i ps hr hinj hsum hfix
    obtain ⟨ps1, e1, e2, e3, e4⟩ := settle_spec th i (ps.size + 1) ps hr hinj (by omega)
      (Nat.lt_succ_of_le (cnt_le th ps ps.size))
    have hsz : ps1.size = ps.size := by simpa using (Array.perm_iff_toList_perm.mp e2).length_eq
    have hfix1 : ∀ j, j < i + 1 → ind th ps1 j = 0 := fun j hj =>
      if h : j = i then h ▸ e3 else e4 j (hfix j (by omega))
    obtain ⟨ps2, f1, f2, f3⟩ := ih (i + 1) ps1 (hr.of_perm e2) (hinj.of_perm e2) (by omega) hfix1
    exact ⟨ps2, by simp only [createLoop, e1, f1], f2.trans e2, fun j hj => f3 j (hsz ▸ hj)⟩

/-- a minimal perfect hash on `keys`: defined with a rank below their number, and injective (so the keys are distinct) -/
def MPH (th : Compress.Seq → Option Nat) (keys : List Compress.Seq) : Prop :=
  (∀ k ∈ keys, ∃ s, th k = some s ∧ s < keys.length) ∧ keys.Pairwise fun a b => th a ≠ th b

theorem createLoop_mph (th : Seq → Option Nat) (rows : List (Seq × V)) (hm : MPH th (rows.map (·.1))) :
    ∃ ps', createLoop th rows.length 0 rows.toArray = some ps' ∧ ps'.toList.Perm rows ∧
      ∀ pos k, (ps'.toList.map (·.1))[pos]? = some k → th k = some pos := by
  have hr : Ranked th rows.toArray := by
    intro p hp
    obtain ⟨s, h1, h2⟩ := hm.1 p.1 (List.mem_map.mpr ⟨p, by simpa using hp, rfl⟩)
    exact ⟨s, h1, by simpa using h2⟩
  have hinj : Inj th rows.toArray := by simpa [Inj] using List.pairwise_map.mp hm.2
  obtain ⟨ps', e1, e2, e3⟩ := createLoop_spec th rows.length 0 rows.toArray hr hinj (by simp) (fun j hj => by omega)
  have hsz : ps'.size = rows.toArray.size := by simpa using (Array.perm_iff_toList_perm.mp e2).length_eq
  exact ⟨ps', e1, by simpa using Array.perm_iff_toList_perm.mp e2, slotted_of_ind th ps' fun j hj => e3 j (hsz ▸ hj)⟩

theorem create_spec (th : Compress.Seq → Option Nat) (keys : List Compress.Seq) (vals : List Nat) (hlen : keys.length = vals.length)
    (hm : MPH th keys) :
    ∃ b, Map.create th keys vals = some b ∧ b.tryHash = th ∧ b.Slotted ∧
      (b.keys.zip b.vals).Perm (keys.zip vals) ∧ b.keys.length = b.vals.length := by
  obtain ⟨ps', e1, e2, e3⟩ := createLoop_mph th (keys.zip vals) (by rw [List.map_fst_zip (by omega)]; exact hm)
  refine ⟨⟨th, ps'.toList.map Prod.fst, ps'.toList.map Prod.snd⟩, ?_, rfl, e3, ?_, by simp⟩
  · simp only [Map.create, List.size_toArray, e1, Option.map_some]
  · exact (List.zip_of_prod rfl rfl : ps'.toList = _) ▸ e2

theorem createTable_spec (th : Compress.Seq → Option Nat) (rows : List (Compress.Seq × V)) (hm : MPH th (rows.map (·.1))) :
    ∃ T, createTable th rows = some T ∧ T.Perm rows ∧ ∀ pos k, (T.map (·.1))[pos]? = some k → th k = some pos := by
  obtain ⟨ps', e1, e2, e3⟩ := createLoop_mph th rows hm
  exact ⟨ps'.toList, by simp only [createTable, e1, Option.map_some], e2, e3⟩

/-- `get_key_id` on slotted keys is the position of the key: exact for present and absent k-mers, whatever the hash
    function answers for the absent ones -/
theorem keyId_exact (th : Compress.Seq → Option Nat) (keys : List Compress.Seq)
    (hs : ∀ pos k, keys[pos]? = some k → th k = some pos) (hr : ∀ k pos, th k = some pos → pos < keys.length)
    (k : Compress.Seq) : keyIdOf th keys k = some (keys.findIdx? (· == k)) := by
  unfold keyIdOf
  -- a k-mer stored nowhere is found nowhere; a stored one sits in the slot its hash names
  have absent : (∀ i : Nat, keys[i]? ≠ some k) → keys.findIdx? (· == k) = none := by
    intro h
    rw [List.findIdx?_eq_none_iff]
    intro x hx
    obtain ⟨i, hi⟩ := List.getElem?_of_mem hx
    rw [beq_eq_false_iff_ne]
    rintro rfl
    exact h i hi
  cases h : th k with
  | none =>
    dsimp only
    rw [absent]
    intro i hi
    rw [hs i k hi] at h
    cases h
  | some pos =>
    have hp := hr k pos h
    simp only [List.getElem?_eq_getElem hp]
    by_cases e : k = keys[pos]
    · rw [if_pos (beq_iff_eq.mpr e)]
      congr 1
      symm
      rw [List.findIdx?_eq_some_iff_getElem]
      refine ⟨hp, beq_iff_eq.mpr e.symm, fun j hj => ?_⟩
      rw [Bool.not_eq_true, beq_eq_false_iff_ne]
      intro ej
      have := hs j k (by rw [List.getElem?_eq_getElem (by omega), ej])
      rw [h] at this
      cases this
      omega
    · rw [if_neg (fun h' => e (beq_iff_eq.mp h')), absent]
      intro i hi
      have := hs i k hi
      rw [h] at this
      cases this
      rw [List.getElem?_eq_getElem hp] at hi
      exact e (Option.some.inj hi).symm

end Boom
