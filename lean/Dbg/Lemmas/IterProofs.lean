import Dbg.Model.KmerIter
import Dbg.Lemmas.KmerExtend
import Dbg.Lemmas.ListWindow
/-! The rolling k-mer iterators over any container that reads its bases and k-mers faithfully. -/
namespace KIter
open Kmer

variable {c : Cfg}

def win (seq : List Nat) (K i : Nat) : List Nat := (seq.drop i).take K

/-- a container that stands for the base vector `seq` -/
structure Faithful (v : Cont c) (seq : List Nat) : Prop where
  len : v.len = seq.length
  base : ∀ b ∈ seq, b < 4
  get : ∀ i (h : i < seq.length), v.get i = some seq[i]
  kmer : ∀ pos, pos + c.K ≤ seq.length → ∃ s, v.getKmer pos = some s ∧ Inv c s ∧ toSeq c s = win seq c.K pos

theorem win_succ (seq : List Nat) (K i : Nat) (hK : 1 ≤ K) (h : K + i < seq.length) :
    (win seq K i).tail ++ [seq[K + i]] = win seq K (i + 1) := by
  rw [win, win, List.window_succ seq hK i, Nat.add_comm i K, List.getElem?_eq_getElem h]; rfl

theorem drop_windows {α} (f : Nat → α) (n i : Nat) (h : i < n) :
    ((List.range n).map f).drop i = f i :: ((List.range n).map f).drop (i + 1) := by
  rw [List.drop_eq_getElem_cons (by rw [List.length_map, List.length_range]; exact h), List.getElem_map, List.getElem_range]

theorem drop_windows_nil {α} (f : Nat → α) (n i : Nat) (h : n ≤ i) : ((List.range n).map f).drop i = [] :=
  List.drop_eq_nil_of_le (by rw [List.length_map, List.length_range]; exact h)

theorem win_lt {K i len : Nat} : i < len + 1 - K ↔ K + i ≤ len := by omega

/-- the extension byte of the k-mer at position `i`: true flanking bases inside the sequence, the
    caller's boundary extensions at the two ends -/
def specExt (seq : List Nat) (K exts i : Nat) : Nat :=
  merge (if i = 0 then exts else mkLeft (seq.getD (i - 1) 0)) (if i + K < seq.length then mkRight (seq.getD (i + K) 0) else exts)

section
variable {v : Cont c} {seq : List Nat} (hf : Faithful v seq)
include hf

theorem Faithful.get_getD (i : Nat) (h : i < seq.length) :
    v.get i = some (seq.getD i 0) := by
  rw [hf.get i h, List.getD_eq_getElem?_getD, List.getElem?_eq_getElem h]; rfl

theorem Faithful.slide (hc : c.WF) (i : Nat) (kmer : St c)
    (hlt : c.K + i < seq.length) (hs : toSeq c kmer = win seq c.K i) :
    Inv c (extendRight c kmer (seq.getD (c.K + i) 0)) ∧ toSeq c (extendRight c kmer (seq.getD (c.K + i) 0)) = win seq c.K (i + 1) := by
  have hb4 : seq[c.K + i] < 4 := hf.base _ (List.getElem_mem _)
  rw [List.getD_eq_getElem?_getD, List.getElem?_eq_getElem hlt, Option.getD_some]
  exact ⟨inv_extendRight hc kmer _ hb4, by rw [toSeq_extendRight hc kmer _ hb4, hs, KSpec.extendRight, win_succ seq c.K i hc.hK hlt]⟩

/-- the loop of `KmerIter::next`, standing at window `i` (position `K + i`), yields the windows from `i` on -/
theorem iterLoop_spec (hc : c.WF) (i pos : Nat) (kmer : St c) (acc : List (St c)) (hpos : pos = c.K + i)
    (hk : pos ≤ seq.length → Inv c kmer ∧ toSeq c kmer = win seq c.K i) :
    ∃ ks, iterLoop v pos kmer acc = some (acc.reverse ++ ks) ∧
      ks.map (toSeq c) = ((List.range (seq.length + 1 - c.K)).map (win seq c.K)).drop i ∧ ∀ k ∈ ks, Inv c k := by
  have hlen := hf.len
  fun_induction iterLoop v pos kmer acc generalizing i with
  | case1 pos kmer acc hle hlt b hb ih =>
    subst hpos
    rw [hlen] at hle hlt
    obtain ⟨hi, hs⟩ := hk hle
    obtain rfl : seq.getD (c.K + i) 0 = b := by rw [hf.get_getD _ hlt] at hb; exact Option.some.inj hb
    obtain ⟨ks, e, m, inv⟩ := ih (i + 1) rfl (fun _ => hf.slide hc i kmer hlt hs)
    exact ⟨kmer :: ks, by rw [e, List.reverse_cons, List.append_assoc]; rfl,
      by rw [List.map_cons, m, hs, drop_windows _ _ i (win_lt.mpr hle)], List.forall_mem_cons.mpr ⟨hi, inv⟩⟩
  | case2 pos kmer acc hle hlt hnone =>
    rw [hlen] at hlt
    rw [hf.get pos hlt] at hnone; cases hnone
  | case3 pos kmer acc hle hnlt ih =>
    subst hpos
    rw [hlen] at hle hnlt
    obtain ⟨hi, hs⟩ := hk hle
    obtain ⟨ks, e, m, inv⟩ := ih (i + 1) rfl (fun h => absurd h (by omega))
    exact ⟨kmer :: ks, by rw [e, List.reverse_cons, List.append_assoc]; rfl,
      by rw [List.map_cons, m, hs, drop_windows _ _ i (win_lt.mpr hle)], List.forall_mem_cons.mpr ⟨hi, inv⟩⟩
  | case4 pos kmer acc hnle =>
    rw [hlen] at hnle
    exact ⟨[], congrArg some (List.append_nil _).symm, (drop_windows_nil _ _ i (Nat.le_of_not_lt (fun h => hnle (hpos ▸ win_lt.mp h)))).symm, nofun⟩

/-- `iter_kmers` yields exactly `max(0, n-K+1)` k-mers, the `i`-th spelling bases `i..i+K` -/
theorem iterKmers_spec (hc : c.WF) :
    ∃ ks, iterKmers v = some ks ∧
      ks.map (toSeq c) = (List.range (seq.length + 1 - c.K)).map (fun i => win seq c.K i) ∧ ∀ k ∈ ks, Inv c k := by
  unfold iterKmers
  rw [hf.len]
  by_cases h : seq.length ≥ c.K
  · rw [if_pos h]
    obtain ⟨s0, e0, i0, t0⟩ := hf.kmer 0 (Nat.zero_add _ ▸ h)
    unfold firstKmer
    rw [e0]
    exact iterLoop_spec hf hc 0 c.K s0 [] rfl (fun _ => ⟨i0, t0⟩)
  · rw [if_neg h]
    exact iterLoop_spec hf hc 0 c.K (Kmer.empty c) [] rfl (fun h' => absurd h' h)

/-- the base looked up by a round of `extsLoop` at `pos`; past the end it is a dummy 0 -/
theorem Faithful.nextBase (pos : Nat) :
    (if pos < v.len then v.get pos else some 0) = some (seq.getD pos 0) := by
  rw [hf.len]
  split
  · next h => exact hf.get_getD pos h
  · next h => rw [List.getD_eq_getElem?_getD, List.getElem?_eq_none (Nat.le_of_not_lt h)]; rfl

/-- the left nibble of window `i`: the caller's at the first window, else the base before the window -/
theorem Faithful.curLeft (exts i : Nat) (hi : c.K + i ≤ seq.length) :
    (if c.K + i == c.K then some exts else (v.get (c.K + i - c.K - 1)).map mkLeft) =
      some (if i = 0 then exts else mkLeft (seq.getD (i - 1) 0)) := by
  by_cases he : i = 0
  · subst he; rw [if_pos (by simp), if_pos rfl]
  · rw [if_neg (by simpa using he), Nat.add_sub_cancel_left, hf.get_getD (i - 1) (by omega), if_neg he]; rfl

theorem extsLoop_spec (hc : c.WF) (exts : Nat) (i pos : Nat) (kmer : St c) (acc : List (St c × Nat)) (hpos : pos = c.K + i)
    (hk : pos ≤ seq.length → Inv c kmer ∧ toSeq c kmer = win seq c.K i) :
    ∃ ks, extsLoop v exts pos kmer acc = some (acc.reverse ++ ks) ∧
      ks.map (fun p => (toSeq c p.1, p.2)) =
        ((List.range (seq.length + 1 - c.K)).map (fun i => (win seq c.K i, specExt seq c.K exts i))).drop i ∧
      ∀ k ∈ ks, Inv c k.1 := by
  have hlen := hf.len
  fun_induction extsLoop v exts pos kmer acc generalizing i with
  | case1 pos kmer acc hle nextBase? curLeft? nb cl hcl hnb cr ih =>
    subst hpos
    rw [hlen] at hle
    obtain ⟨hi, hs⟩ := hk hle
    obtain rfl : seq.getD (c.K + i) 0 = nb := Option.some.inj ((hf.nextBase _).symm.trans hnb)
    obtain rfl : (if i = 0 then exts else mkLeft (seq.getD (i - 1) 0)) = cl :=
      Option.some.inj ((hf.curLeft exts i hle).symm.trans hcl)
    obtain ⟨ks, e, m, inv⟩ := ih (i + 1) rfl (fun hlt => hf.slide hc i kmer hlt hs)
    refine ⟨(kmer, merge _ cr) :: ks, by rw [e, List.reverse_cons, List.append_assoc]; rfl, ?_, List.forall_mem_cons.mpr ⟨hi, inv⟩⟩
    rw [List.map_cons, m, hs, drop_windows _ _ i (win_lt.mpr hle), specExt]
    simp only [cr, hlen, Nat.add_comm i c.K, dite_eq_ite]
  | case2 pos kmer acc hle nextBase? curLeft? hnone =>
    subst hpos
    rw [hlen] at hle
    exact absurd (hf.curLeft exts i hle) (hnone _ _ (hf.nextBase _))
  | case3 pos kmer acc hnle =>
    rw [hlen] at hnle
    exact ⟨[], congrArg some (List.append_nil _).symm, (drop_windows_nil _ _ i (Nat.le_of_not_lt (fun h => hnle (hpos ▸ win_lt.mp h)))).symm, nofun⟩

/-- `iter_kmer_exts` pairs each k-mer with its true flanking bases, using the caller's extensions only at the ends -/
theorem iterKmerExts_spec (hc : c.WF) (exts : Nat) :
    ∃ ks, iterKmerExts v exts = some ks ∧
      ks.map (fun p => (toSeq c p.1, p.2)) =
        (List.range (seq.length + 1 - c.K)).map (fun i => (win seq c.K i, specExt seq c.K exts i)) ∧
      ∀ k ∈ ks, Inv c k.1 := by
  unfold iterKmerExts
  rw [hf.len]
  by_cases h : seq.length ≥ c.K
  · rw [if_pos h]
    obtain ⟨s0, e0, i0, t0⟩ := hf.kmer 0 (Nat.zero_add _ ▸ h)
    unfold firstKmer
    rw [e0]
    exact extsLoop_spec hf hc exts 0 c.K s0 [] rfl (fun _ => ⟨i0, t0⟩)
  · rw [if_neg h]
    exact extsLoop_spec hf hc exts 0 c.K (Kmer.empty c) [] rfl (fun h' => absurd h' h)

theorem termKmer_spec (hK : c.K ≤ seq.length) :
    (∃ s, firstKmer v = some s ∧ Inv c s ∧ toSeq c s = win seq c.K 0) ∧
    (∃ s, lastKmer v = some s ∧ Inv c s ∧ toSeq c s = win seq c.K (seq.length - c.K)) := by
  refine ⟨hf.kmer 0 (by omega), ?_⟩
  unfold lastKmer
  rw [hf.len, if_neg (by omega)]
  exact hf.kmer _ (by omega)

theorem lastKmer_short (hK : seq.length < c.K) : lastKmer v = none := by
  unfold lastKmer; rw [hf.len, if_pos hK]

end

end KIter
