import Dbg.Lemmas.KmerSlice
import Dbg.Lemmas.KmerOrder
import Dbg.Model.Lmer
/-! A 64-bit storage block of `DnaString` / `Lmer` is a `Kmer32` word: the block accessors are the
    k-mer accessors at configuration ⟨64, 32, full-width⟩.  The lanes of a list of blocks are addressed
    by (block, lane) pairs `32 * b + j`, so that no statement about them needs division. -/
namespace Block64
open Kmer

abbrev k32 : Cfg := ⟨64, 32, false⟩
theorem k32_wf : k32.WF := ⟨by decide, by decide, fun _ => by decide⟩

theorem inv_k32 (b : BitVec 64) : Inv k32 b := fun _ hi => BitVec.getLsbD_of_ge _ _ hi

theorem addr_k32 (i : Nat) : addr k32 i = 62 - 2 * i := by
  show (32 - 1 - i) * 2 = 62 - 2 * i; omega

/-- `DnaString::get_by_addr` on a block = `Kmer32::get` -/
theorem dna_blockGet_eq (b : BitVec 64) (i : Nat) : DnaStr.blockGet b (2 * i) = get k32 b i := by
  unfold DnaStr.blockGet Kmer.get; rw [addr_k32]; rfl

theorem runBase_eq_get (v : BitVec 64) (j : Nat) : KSpec.runBase v j = get k32 v j := by
  unfold KSpec.runBase Kmer.get; rw [addr_k32]

/-- `DnaString::set_by_addr` on a block = `Kmer32::set_mut` (the or-xor-or sequence clears the lane) -/
theorem dna_blockSet_eq (b : BitVec 64) (i v : Nat) (hv : v < 4) : DnaStr.blockSet b (2 * i) v = setMut k32 b i v := by
  unfold DnaStr.blockSet setMut
  dsimp only
  rw [addr_k32]
  have hvv : (BitVec.ofNat 64 v &&& BitVec.ofNat 64 Gen.dnaMask) = BitVec.ofNat 64 v := by
    have : v = 0 ∨ v = 1 ∨ v = 2 ∨ v = 3 := by omega
    rcases this with rfl | rfl | rfl | rfl <;> decide
  have key : ∀ (x m : BitVec 64), (x ||| m) ^^^ m = x &&& ~~~m := by
    intro x m
    apply BitVec.eq_of_getLsbD_eq
    intro j hj
    simp only [BitVec.getLsbD_or, BitVec.getLsbD_xor, BitVec.getLsbD_and, BitVec.getLsbD_not, hj, decide_true, Bool.true_and]
    cases x.getLsbD j <;> cases m.getLsbD j <;> rfl
  rw [hvv, key]; rfl

theorem runBase_shift (v : BitVec 64) (bp j : Nat) (h : bp + j < 32) :
    KSpec.runBase (v <<< (2 * bp)) j = get k32 v (bp + j) := by
  -- the two bits of the lane sit at `a`, `a + 1` in the block and `2 * bp` higher in the shifted block
  obtain ⟨a, ha, ha'⟩ : ∃ a, 62 - 2 * j = a + 2 * bp ∧ 62 - 2 * (bp + j) = a := ⟨62 - 2 * (bp + j), by omega, rfl⟩
  have bit : ∀ d, d ≤ 1 → (v <<< (2 * bp)).getLsbD (a + 2 * bp + d) = v.getLsbD (a + d) := fun d hd => by
    rw [BitVec.getLsbD_shiftLeft, Nat.add_right_comm, Nat.add_sub_cancel, decide_eq_true (show a + d + 2 * bp < 64 by omega),
      decide_eq_false (Nat.not_lt.mpr (Nat.le_add_left _ _))]; rfl
  have b0 : (v <<< (2 * bp)).getLsbD (a + 2 * bp) = v.getLsbD a := bit 0 (Nat.zero_le 1)
  rw [runBase_eq_get, get_bits k32_wf, get_bits k32_wf, addr_k32, addr_k32, ha, ha', bit 1 (Nat.le_refl 1), b0]

def blockSeq (b : BitVec 64) : List Nat := toSeq k32 b

theorem blockSeq_length (b : BitVec 64) : (blockSeq b).length = 32 := Kmer.toSeq_length (c := k32) b

theorem blockSeq_get (b : BitVec 64) (j : Nat) (hj : j < 32) : (blockSeq b)[j]? = some (get k32 b j) := by
  simp [blockSeq, toSeq, hj]

theorem blockSeq_zero : blockSeq 0#64 = List.replicate 32 0 := by decide

theorem blockSeq_inj (a b : BitVec 64) (h : blockSeq a = blockSeq b) : a = b :=
  toSeq_inj k32_wf a b (inv_k32 a) (inv_k32 b) h

theorem blockSeq_setMut (b : BitVec 64) (i v : Nat) (hi : i < 32) (hv : v < 4) :
    blockSeq (setMut k32 b i v) = (blockSeq b).set i v := toSeq_setMut k32_wf b i v hi hv

theorem lanes_length (S : List (BitVec 64)) : (S.flatMap blockSeq).length = 32 * S.length := by
  induction S with
  | nil => rfl
  | cons a t ih => rw [List.flatMap_cons, List.length_append, blockSeq_length, ih, List.length_cons]; omega

theorem lane_coords (q : Nat) : ∃ b j, j < 32 ∧ q = 32 * b + j :=
  ⟨q / 32, q % 32, Nat.mod_lt _ (by decide), (Nat.div_add_mod q 32).symm⟩

theorem lane_div (b j : Nat) (hj : j < 32) : (32 * b + j) / 32 = b := by
  rw [Nat.mul_add_div (by decide), Nat.div_eq_of_lt hj, Nat.add_zero]

theorem lane_mod (b j : Nat) (hj : j < 32) : (32 * b + j) % 32 = j := by
  rw [Nat.mul_add_mod, Nat.mod_eq_of_lt hj]

theorem lanes_getElem (S : List (BitVec 64)) (b j : Nat) (hj : j < 32) :
    (S.flatMap blockSeq)[32 * b + j]? = S[b]?.map (get k32 · j) := by
  induction S generalizing b with
  | nil => rfl
  | cons a t ih =>
    rw [List.flatMap_cons]
    cases b with
    | zero => rw [Nat.mul_zero, Nat.zero_add, List.getElem?_append_left (by rw [blockSeq_length]; omega), blockSeq_get a j hj]; rfl
    | succ b =>
      rw [List.getElem?_append_right (by rw [blockSeq_length]; omega), blockSeq_length,
        show 32 * (b + 1) + j - 32 = 32 * b + j by omega, ih b]; rfl

theorem lanes_getElem_div (S : List (BitVec 64)) (q : Nat) :
    (S.flatMap blockSeq)[q]? = S[q / 32]?.map (get k32 · (q % 32)) := by
  have := lanes_getElem S (q / 32) (q % 32) (Nat.mod_lt _ (by decide))
  rwa [Nat.div_add_mod] at this

theorem lanes_lt4 (S : List (BitVec 64)) (q x : Nat) (h : (S.flatMap blockSeq)[q]? = some x) : x < 4 := by
  rw [lanes_getElem_div] at h
  cases hw : S[q / 32]? with
  | none => rw [hw] at h; cases h
  | some w => rw [hw] at h; cases h; exact get_lt k32_wf w _

theorem lanes_set (S : List (BitVec 64)) (b : Nat) (w : BitVec 64) (hb : b < S.length) (b' j : Nat) (hj : j < 32) :
    ((S.set b w).flatMap blockSeq)[32 * b' + j]? =
      if b' = b then some (get k32 w j) else (S.flatMap blockSeq)[32 * b' + j]? := by
  rw [lanes_getElem _ b' j hj, lanes_getElem _ b' j hj, List.getElem?_set]
  by_cases h : b = b'
  · subst h; rw [if_pos rfl, if_pos rfl, if_pos hb]; rfl
  · rw [if_neg h, if_neg (Ne.symm h)]

theorem lanes_setMut (S : List (BitVec 64)) (b j v : Nat) (hb : b < S.length) (hj : j < 32) (hv : v < 4) :
    (S.set b (setMut k32 S[b] j v)).flatMap blockSeq = (S.flatMap blockSeq).set (32 * b + j) v := by
  induction S generalizing b with
  | nil => exact absurd hb (Nat.not_lt_zero _)
  | cons a t ih =>
    cases b with
    | zero =>
      simp only [List.set_cons_zero, List.getElem_cons_zero, List.flatMap_cons, Nat.mul_zero, Nat.zero_add]
      rw [List.set_append_left _ _ (by rw [blockSeq_length]; omega), blockSeq_setMut a j v hj hv]
    | succ b =>
      simp only [List.set_cons_succ, List.getElem_cons_succ, List.flatMap_cons]
      rw [ih b (Nat.lt_of_succ_lt_succ hb), List.set_append_right _ _ (by rw [blockSeq_length]; omega),
        blockSeq_length, show 32 * (b + 1) + j - 32 = 32 * b + j by omega]

theorem lanes_setSlice (S : List (BitVec 64)) (b bp n : Nat) (value : BitVec 64) (hb : b < S.length) (hn1 : 1 ≤ n)
    (hpn : bp + n ≤ 32) (q : Nat) :
    ((S.set b (setSliceMut k32 S[b] bp n value)).flatMap blockSeq)[q]? =
      if 32 * b + bp ≤ q ∧ q < 32 * b + bp + n then some (KSpec.runBase value (q - (32 * b + bp)))
      else (S.flatMap blockSeq)[q]? := by
  obtain ⟨b', j, hj, rfl⟩ := lane_coords q
  rw [lanes_set S b _ hb b' j hj]
  by_cases h : b' = b
  · subst h
    rw [if_pos rfl, get_setSliceMut k32_wf _ bp n value j hn1 (Nat.le_trans (Nat.le_add_left n bp) hpn) hpn hj,
      lanes_getElem S b' j hj, List.getElem?_eq_getElem hb]
    simp only [Nat.add_assoc, Nat.add_le_add_iff_left, Nat.add_lt_add_iff_left, Nat.add_sub_add_left]
    split <;> rfl
  · rw [if_neg h, if_neg (by omega)]

theorem lanes_inj (A B : List (BitVec 64)) (h : A.flatMap blockSeq = B.flatMap blockSeq) : A = B := by
  induction A generalizing B with
  | nil =>
    cases B with
    | nil => rfl
    | cons b B => have := congrArg List.length h; rw [lanes_length, lanes_length] at this; simp at this
  | cons a A ih =>
    cases B with
    | nil => have := congrArg List.length h; rw [lanes_length, lanes_length] at this; simp at this
    | cons b B =>
      obtain ⟨h1, h2⟩ := List.append_inj h (by rw [blockSeq_length, blockSeq_length])
      rw [blockSeq_inj a b h1, ih B h2]

theorem lanes_replicate_zero (n : Nat) : (List.replicate n 0#64).flatMap blockSeq = List.replicate (32 * n) 0 := by
  induction n with
  | zero => rfl
  | succ n ih =>
    rw [List.replicate_succ, List.flatMap_cons, ih, blockSeq_zero, List.replicate_append_replicate]; congr 1; omega

end Block64
