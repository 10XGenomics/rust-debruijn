import Dbg.Lemmas.PGraphAppend
import Dbg.Lemmas.Prune
/-! Edges of a ported graph: `find_link` resolves a recorded extension iff its target k-mer is in the table, and it
    resolves it to the node whose end port is the target k-mer. -/
namespace Compress
open Walk (Dir)
open Filter (has ExtSym2)
open Graph (termKmer findLink)
variable {D : Type}
variable {U : Table D} {K : Nat} {st : Bool} {join0 : D → D → Bool} {nodes : List (Node D)}
  {port : Nat → Dir → Nat × Dir} {members : Nat → List Nat} {lk : Walk.Link}

/-- where a recorded extension leads: the node `j` and side `s'` whose port is the target k-mer, and how the terminal
    k-mer on that side spells the extended k-mer -/
theorem PGraph.resolve {U : Table D} {K : Nat} {st : Bool} {join0 : D → D → Bool} {nodes : List (Node D)}
    {port : Nat → Dir → Nat × Dir} {members : Nat → List Nat} {lk : Walk.Link}
    (pg : PGraph U K st join0 nodes port members lk) (wf : WF U K st) (hes2 : ExtSym2 U st)
    (i : Nat) (n : Node D) (hi : nodes[i]? = some n) (s : Dir) (ex : Entry D) (np : NodePort U K st n s (port i s) ex)
    (β : Base) (hβ : has n.exts s β)
    (y : Nat) (hy : findId U (canonSt st (extend (termKmer K n.seq s) β s)).1 = some y) :
    ∃ (j : Nat) (nj : Node D) (s' : Dir) (c : Bool), nodes[j]? = some nj ∧
      port j s' = (y, condFlip (port i s).2.flip
        (canonSt st (extend ex.key (if (port i s).2 = s then β else comp β) (port i s).2)).2) ∧
      s' = condFlip s.flip c ∧ termKmer K nj.seq s' = rcIf c (extend (termKmer K n.seq s) β s) ∧ (c = true → st = false) := by
  have hilt : i < nodes.length := (List.getElem?_eq_some_iff.mp hi).1
  generalize hp : port i s = p at np
  have hb := (np.exts β).mp hβ
  have hst : st = true → p.2 = s := np.strand
  obtain ⟨htn, hcan⟩ := node_target n s p ex np β
  rw [hcan] at hy
  rw [← hp] at hb hy
  obtain ⟨j, s', hj, hport⟩ := pg.target_port wf hes2 i hilt s ex (by rw [hp]; exact np.ent) _ hb y hy
  rw [hp] at hport hb hy
  obtain ⟨nj, hnj⟩ : ∃ nj, nodes[j]? = some nj := ⟨_, List.getElem?_eq_getElem hj⟩
  obtain ⟨ey, npY⟩ := pg.np j nj s' hnj
  rw [hport] at npY
  obtain ⟨ey', hey', hkey⟩ := findId_some hy
  obtain rfl : ey' = ey := Option.some.inj (hey'.symm.trans npY.ent)
  generalize hb0 : (if p.2 = s then β else comp β) = b at *
  generalize hf : (canonSt st (extend ex.key b p.2)).2 = f at *
  have hkey' : ey'.key = rcIf f (extend ex.key b p.2) := by rw [hkey, canonSt_rcIf, hf]
  have htY : termKmer K nj.seq s' = rcIf (decide (condFlip p.2.flip f ≠ s')) ey'.key := by
    have := npY.term
    simp only at this
    rw [this]
    by_cases h : condFlip p.2.flip f = s' <;> simp [h, rcIf]
  have hside := side_parity s p.2 s' f
  generalize hc : xor (xor (decide (condFlip p.2.flip f ≠ s')) f) (decide (p.2 ≠ s)) = c at hside
  refine ⟨j, nj, s', c, hnj, hport, hside, ?_, ?_⟩
  · rw [htY, hkey', htn, rcIf_parity _ f (decide (p.2 ≠ s)), hc]
  · intro hct
    cases st with
    | false => rfl
    | true =>
      -- stranded: both ports are on their own side and the target k-mer is taken as it stands
      have h3 : condFlip p.2.flip f = s' := npY.strand rfl
      have h2 : f = false := by rw [← hf]; rfl
      rw [← hc, h3, hst rfl, h2] at hct
      simp at hct

/-- `find_link` resolves a k-mer to a node end with the same canonical form -/
theorem findLink_canon {km : Seq} {s : Dir} {Y : Nat} {inc : Dir} {fl : Bool}
    {nY : Node D} (hl : findLink (⟨K, nodes, st⟩ : Graph.G D) km s = some (Y, inc, fl)) (hY : nodes[Y]? = some nY) :
    (canonSt st km).1 = (canonSt st (termKmer K nY.seq inc)).1 := by
  obtain ⟨nn, hY', hterm, _, hf1⟩ := Graph.findLink_sound _ _ _ _ _ _ hl
  cases Option.some.inj (hY.symm.trans hY')
  have ht : termKmer K nY.seq inc = if fl then rc km else km := hterm
  rw [ht]
  cases fl with
  | false => rfl
  | true =>
    have hst : st = false := (hf1 rfl).2
    subst hst
    simp only [if_true, canonSt, Bool.false_eq_true, if_false]
    exact (Filter.minRcFlip_rc_key _).symm

/-- a k-mer that `find_link` resolves is, in canonical form, a key of the table: it is an end k-mer of a node -/
theorem PGraph.findLink_in_table
    (pg : PGraph U K st join0 nodes port members lk) (km : Seq) (dir : Dir)
    (h : (findLink (⟨K, nodes, st⟩ : Graph.G D) km dir).isSome) : (canonSt st km).1 ∈ U.map (·.key) := by
  obtain ⟨⟨v, s', f⟩, hl⟩ := Option.isSome_iff_exists.mp h
  obtain ⟨nd, hv, _⟩ := Graph.findLink_sound _ _ _ _ _ _ hl
  have hv' : nodes[v]? = some nd := hv
  have hvlt : v < nodes.length := (List.getElem?_eq_some_iff.mp hv').1
  have hmem : (canonSt st (termKmer K nd.seq s')).1 ∈ (members v).map (keyOf U) := by
    rw [← pg.keys v nd hv']
    exact List.mem_map_of_mem (term_mem_windows K nd.seq (pg.len v nd hv') s')
  rw [← findLink_canon hl hv'] at hmem
  obtain ⟨id, hid, hk⟩ := List.mem_map.mp hmem
  have hlt : id < U.length := pg.inRange v hvlt id hid
  rw [← hk]
  unfold keyOf
  rw [List.getElem?_eq_getElem hlt]
  exact List.mem_map_of_mem (List.getElem_mem hlt)

/-- **edges of a ported graph**: a recorded extension resolves iff its target is a key of the table -/
theorem PGraph.edge_iff {U : Table D} {K : Nat} {st : Bool} {join0 : D → D → Bool} {nodes : List (Node D)}
    {port : Nat → Dir → Nat × Dir} {members : Nat → List Nat} {lk : Walk.Link}
    (pg : PGraph U K st join0 nodes port members lk) (wf : WF U K st) (hes2 : ExtSym2 U st)
    (i : Nat) (n : Node D) (hi : nodes[i]? = some n) (s : Dir) (β : Base) (hβ : has n.exts s β) :
    (findLink (⟨K, nodes, st⟩ : Graph.G D) (extend (termKmer K n.seq s) β s) s).isSome ↔
      (canonSt st (extend (termKmer K n.seq s) β s)).1 ∈ U.map (·.key) := by
  constructor
  · exact pg.findLink_in_table _ s
  · intro h
    obtain ⟨y, hy⟩ := findId_isSome_of_mem U _ h
    obtain ⟨e, np⟩ := pg.np i n s hi
    obtain ⟨j, nj, s', c, hnj, _, hside, hterm, hc⟩ := pg.resolve wf hes2 i n hi s e np β hβ y hy
    rw [hside] at hterm
    exact findLink_isSome (⟨K, nodes, st⟩ : Graph.G D) _ s nj (List.mem_of_getElem? hnj) c hterm hc

end Compress
