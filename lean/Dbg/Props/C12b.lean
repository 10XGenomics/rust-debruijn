import Dbg.Lemmas.Nibble
/-! # C12 (continued) — an extension set is a pair of sets of bases

Every operation of `Exts` is characterised by what it does to the eight memberships "base `x` is an extension on side
`d`" (`Exts.hasExt`).  A membership is a bit of the byte (bit `x` on the left, bit `4 + x` on the right), so the operations
built from masks and shifts are followed bit by bit (`Lemmas/Nibble`), for every byte; only `complement`, two rounds of
masked swaps, is evaluated over the 256 bytes (it reverses each nibble).  The constants of `complement`, `reverse` and
`merge` are the ones regenerated from lib.rs (T1). -/
namespace Compress
open Walk (Dir)

abbrev E (v : Fin 256) : Exts := ⟨v.val⟩

theorem exts_get (e : Exts) (d : Dir) : e.get d = (List.range 4).filter fun x => e.hasExt d x := rfl

theorem exts_num (v : Fin 256) (d : Dir) : (E v).numExtDir d = ((E v).get d).length :=
  (nib_get_table ⟨_, dirBits_lt _ v.isLt d⟩).1

theorem exts_unique (v : Fin 256) (d : Dir) (b : Base) : (E v).uniqueExt d = some b ↔ (E v).get d = [b.val] :=
  (nib_get_table ⟨_, dirBits_lt _ v.isLt d⟩).2 b

theorem exts_singleDir (v : Fin 256) (d : Dir) (x : Fin 4) :
    ((E v).singleDir d).hasExt .L x.val = (E v).hasExt d x.val ∧ ((E v).singleDir d).hasExt .R x.val = false := by
  constructor
  · rw [Exts.hasExt_eq_testBit, Exts.hasExt_eq_testBit, Exts.testBit_dirBits_L, decide_eq_true x.isLt, Bool.and_true]; rfl
  · rw [Exts.hasExt_eq_testBit, Exts.testBit_dirBits_R]
    exact Nat.testBit_lt_two_pow (Nat.lt_of_lt_of_le (dirBits_lt _ v.isLt d) (Nat.pow_le_pow_right (n := 2) (by decide) (Nat.le_add_right 4 _)))

theorem Exts.debug_eq (e : Exts) : e.debug =
    (e.get .L).map (fun b => [65, 67, 71, 84].getD b 88) ++ [124] ++ (e.get .R).map (fun b => [65, 67, 71, 84].getD b 88) := by
  have hside : ∀ d : Dir, (e.get d).map (fun b => Gen.bitsToBase.getD b 88) = (e.get d).map (fun b => [65, 67, 71, 84].getD b 88) := by
    intro d
    apply List.map_congr_left
    intro b hb
    have hb4 : b < 4 := List.mem_range.mp (List.mem_filter.mp hb).1
    exact (by decide : ∀ b : Fin 4, Gen.bitsToBase.getD b.val 88 = [65, 67, 71, 84].getD b.val 88) ⟨b, hb4⟩
  unfold Exts.debug
  rw [hside, hside]

theorem exts_debug : ∀ (v : Fin 256), (E v).debug =
    ((E v).get .L).map (fun b => [65, 67, 71, 84].getD b 88) ++ [124] ++ ((E v).get .R).map (fun b => [65, 67, 71, 84].getD b 88) :=
  fun v => Exts.debug_eq (E v)

theorem exts_reverse (v : Fin 256) (d : Dir) (x : Fin 4) :
    (E v).reverse.hasExt d x.val = (E v).hasExt d.flip x.val ∧ (E v).reverse.val < 256 :=
  ⟨Exts.reverse_hasExt (E v) v.isLt d x, Exts.reverse_lt _⟩

theorem exts_complement (v : Fin 256) (d : Dir) (x : Fin 4) :
    (E v).complement.hasExt d x.val = (E v).hasExt d (3 - x.val) ∧ (E v).complement.val < 256 :=
  ⟨Exts.complement_hasExt (E v) v.isLt d x, Exts.complement_lt _⟩

theorem exts_rc (v : Fin 256) (d : Dir) (x : Fin 4) :
    (E v).rc.hasExt d x.val = (E v).hasExt d.flip (3 - x.val) ∧ (E v).rc.rc = E v :=
  ⟨Exts.rc_hasExt (E v) v.isLt d x, Exts.rc_rc (E v) v.isLt⟩

theorem exts_set (v : Fin 256) (d : Dir) (p : Fin 4) (d' : Dir) (x : Fin 4) :
    (Graph.Exts.set (E v) d p.val).hasExt d' x.val = ((E v).hasExt d' x.val || (decide (d = d') && decide (p = x))) :=
  Exts.set_hasExt (E v) d p d' x

theorem exts_mk : ∀ (l r : Fin 4), (Exts.mkLeft l.val).get .L = [l.val] ∧ (Exts.mkLeft l.val).get .R = [] ∧
    (Exts.mkRight r.val).get .R = [r.val] ∧ (Exts.mkRight r.val).get .L = [] ∧
    (Exts.mkBoth l.val r.val).get .L = [l.val] ∧ (Exts.mkBoth l.val r.val).get .R = [r.val] := by decide +kernel

theorem exts_add_has (a b : Fin 256) (d : Dir) (x : Base) :
    nibHas (((E a).add (E b)).dirBits d) x = (nibHas ((E a).dirBits d) x || nibHas ((E b).dirBits d) x) := by
  rw [exts_add, nibHas_eq_testBit, nibHas_eq_testBit, nibHas_eq_testBit, Nat.testBit_or]

theorem exts_merge (l r : Exts) (hr : r.val < 256) :
    (Exts.merge l r).dirBits .L = l.dirBits .L ∧ (Exts.merge l r).dirBits .R = r.dirBits .R := by
  constructor
  · show (l.val &&& 15 ||| r.val &&& 240) &&& 15 = l.val &&& 15
    rw [Nat.and_or_distrib_right, Nat.and_assoc, Nat.and_assoc, show (240 : Nat) &&& 15 = 0 from rfl, Nat.and_zero, Nat.or_zero]
    rfl
  · show (l.val &&& 15 ||| r.val &&& 240) >>> 4 = r.val >>> 4
    rw [Nat.shiftRight_or_distrib, Nat.shiftRight_and_distrib, Nat.shiftRight_and_distrib, show (15 : Nat) >>> 4 = 0 from rfl,
      Nat.and_zero, Nat.zero_or]
    exact Nat.and_two_pow_sub_one_of_lt_two_pow (n := 4) (dirBits_lt r hr .R)

/-- the byte built from an optional left and an optional right flank (`4` = none) -/
def flankByte (l r : Fin 5) : Nat :=
  ((((if r.val < 4 then (1 <<< r.val) % 256 else 0) <<< 4) % 256) ||| (if l.val < 4 then (1 <<< l.val) % 256 else 0))

theorem flank_table : ∀ (l r : Fin 5),
    (⟨flankByte l r⟩ : Exts).get .L = (if l.val < 4 then [l.val] else []) ∧
    (⟨flankByte l r⟩ : Exts).get .R = (if r.val < 4 then [r.val] else []) := by decide +kernel

/-- an optional flank of the window (present when `c` holds, then the base at `i`) as an element of `Fin 5` -/
theorem flank_of (src : List Nat) (hb : ∀ x ∈ src, x < 4) (c : Prop) [Decidable c] (i : Nat) (hi : c → i < src.length) :
    ∃ f : Fin 5, (if c then (src[i]?).map (fun b => (1 <<< b) % 256) else some 0) = some (if f.val < 4 then (1 <<< f.val) % 256 else 0) ∧
      (if f.val < 4 then [f.val] else []) = (if c then [src.getD i 0] else []) := by
  by_cases hc : c
  · have hv := hb _ (List.getElem_mem (hi hc))
    refine ⟨⟨src[i]'(hi hc), by omega⟩, ?_, ?_⟩
    · simp [hc, List.getElem?_eq_getElem (hi hc), hv]
    · simp [hc, hv, List.getD_eq_getElem?_getD, List.getElem?_eq_getElem (hi hc)]
  · exact ⟨⟨4, by decide⟩, by simp [hc], by simp [hc]⟩

/-- `from_slice_bounds` / `from_dna_string`: the extension set of a window inside a sequence holds exactly the base just
    before the window (if any) on the left and the base just after it (if any) on the right -/
theorem exts_fromSliceBounds (src : List Nat) (hb : ∀ x ∈ src, x < 4) (start length : Nat) (h : start + length ≤ src.length) :
    ∃ e, Exts.fromSliceBounds src start length = some e ∧
      e.get .L = (if start > 0 then [src.getD (start - 1) 0] else []) ∧
      e.get .R = (if start + length < src.length then [src.getD (start + length) 0] else []) := by
  obtain ⟨l, hl1, hl2⟩ := flank_of src hb (start > 0) (start - 1) (fun _ => by omega)
  obtain ⟨r, hr1, hr2⟩ := flank_of src hb (start + length < src.length) (start + length) id
  unfold Exts.fromSliceBounds
  simp only [hl1, hr1]
  obtain ⟨t1, t2⟩ := flank_table l r
  exact ⟨_, rfl, by rw [← hl2]; exact t1, by rw [← hr2]; exact t2⟩

end Compress
