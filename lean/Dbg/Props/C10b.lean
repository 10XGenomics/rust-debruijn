import Dbg.Lemmas.KmerHd1
import Dbg.Lemmas.KmerExtend
import Dbg.Model.KmerExts
/-! # C10 (continued) — `KmerOneHammingIter` enumerates exactly the Hamming-distance-1 neighbours

Not one of the operations C10 lists, but part of the k-mer API (neighbors.rs): the iterator over a k-mer yields, on the
string level, exactly the `3 K` strings that differ from it in one position. -/
namespace KSpec

theorem hamming_self : ∀ (l : List Nat), hamming l l = 0 := by
  intro l
  induction l with
  | nil => rfl
  | cons a t ih =>
    unfold hamming at ih ⊢
    rw [List.zip_cons_cons, List.countP_cons, ih]
    simp

theorem hamming_cons (a b : Nat) (l m : List Nat) : hamming (a :: l) (b :: m) = hamming l m + (if a != b then 1 else 0) := by
  unfold hamming
  rw [List.zip_cons_cons, List.countP_cons]

theorem hamming_zero : ∀ (l m : List Nat), l.length = m.length → hamming l m = 0 → l = m := by
  intro l
  induction l with
  | nil => intro m h _; cases m with | nil => rfl | cons _ _ => simp at h
  | cons a t ih =>
    intro m h h0
    cases m with
    | nil => simp at h
    | cons b u =>
      rw [hamming_cons] at h0
      by_cases hab : a = b
      · subst hab
        simp only [bne_self_eq_false, Bool.false_eq_true, if_false, Nat.add_zero] at h0
        rw [ih u (by simpa using h) h0]
      · have : (a != b) = true := by simpa using hab
        rw [this] at h0; simp at h0

theorem mem_hd1 (l y : List Nat) :
    y ∈ hd1 l ↔ ∃ p ch, p < l.length ∧ ch < 4 ∧ l.getD p 99 ≠ ch ∧ y = l.set p ch := by
  unfold hd1
  rw [List.mem_flatMap]
  constructor
  · rintro ⟨p, hp, hy⟩
    obtain ⟨ch, hch, hf⟩ := List.mem_filterMap.mp hy
    refine ⟨p, ch, List.mem_range.mp hp, List.mem_range.mp hch, ?_, ?_⟩
    · intro e; rw [if_pos e] at hf; cases hf
    · by_cases e : l.getD p 99 = ch
      · rw [if_pos e] at hf; cases hf
      · rw [if_neg e] at hf; exact (Option.some.inj hf).symm
  · rintro ⟨p, ch, hp, hch, hne, rfl⟩
    exact ⟨p, List.mem_range.mpr hp, List.mem_filterMap.mpr ⟨ch, List.mem_range.mpr hch, by rw [if_neg hne]⟩⟩

theorem hamming_set : ∀ (l : List Nat) (p ch : Nat), p < l.length →
    hamming l (l.set p ch) = if l.getD p 99 = ch then 0 else 1
  | a :: t, 0, ch, _ => by
    rw [List.set_cons_zero, hamming_cons, hamming_self]
    by_cases h : a = ch <;> simp [h]
  | a :: t, q + 1, ch, hp => by
    rw [List.set_cons_succ, hamming_cons, hamming_set t q ch (by simpa using hp)]
    simp

theorem hd1_sound : ∀ (l : List Nat) (y : List Nat), y ∈ hd1 l → y.length = l.length ∧ hamming l y = 1 := by
  intro l y hy
  obtain ⟨p, ch, hp, _, hne, rfl⟩ := (mem_hd1 l y).mp hy
  exact ⟨by simp, by rw [hamming_set l p ch hp, if_neg hne]⟩

theorem hd1_complete : ∀ (l y : List Nat), y.length = l.length → (∀ b ∈ y, b < 4) → hamming l y = 1 → y ∈ hd1 l := by
  intro l y hlen hb h1
  rw [mem_hd1]
  induction l generalizing y with
  | nil =>
    cases y with
    | nil => simp [hamming] at h1
    | cons _ _ => simp at hlen
  | cons a t ih =>
    cases y with
    | nil => simp at hlen
    | cons b u =>
      rw [hamming_cons] at h1
      by_cases hab : a = b
      · subst hab
        simp only [bne_self_eq_false, Bool.false_eq_true, if_false, Nat.add_zero] at h1
        obtain ⟨p, ch, hp, hch, hne, rfl⟩ := ih u (by simpa using hlen) (fun x hx => hb x (List.mem_cons_of_mem _ hx)) h1
        exact ⟨p + 1, ch, by simpa using hp, hch, by simpa using hne, by simp⟩
      · have hbne : (a != b) = true := by simpa using hab
        rw [hbne] at h1
        simp only [if_true] at h1
        have h0 : hamming t u = 0 := by omega
        have := hamming_zero t u (by simpa using hlen.symm) h0
        subst this
        exact ⟨0, b, by simp, hb b (List.mem_cons_self ..), by simpa using hab, by simp⟩

theorem three_others : ∀ (v : Nat), v < 4 → ∀ (f : Nat → List Nat),
    ((List.range 4).filterMap fun ch => if v = ch then none else some (f ch)).length = 3 := by
  intro v hv f
  have h4 : List.range 4 = [0, 1, 2, 3] := by decide
  rw [h4]
  have : v = 0 ∨ v = 1 ∨ v = 2 ∨ v = 3 := by omega
  rcases this with rfl | rfl | rfl | rfl <;> simp

theorem hd1_length (l : List Nat) (hl : ∀ b ∈ l, b < 4) : (hd1 l).length = 3 * l.length := by
  have h3 : ∀ p ∈ List.range l.length,
      ((List.range 4).filterMap fun ch => if l.getD p 99 = ch then none else some (l.set p ch)).length = 3 := by
    intro p hp
    have hp := List.mem_range.mp hp
    refine three_others _ ?_ _
    rw [List.getD_eq_getElem?_getD, List.getElem?_eq_getElem hp]
    exact hl _ (List.getElem_mem _)
  unfold hd1
  rw [List.length_flatMap, List.map_congr_left h3, List.map_const', List.sum_replicate_nat, List.length_range, Nat.mul_comm]

end KSpec

namespace Kmer

/-- C10 (`KmerOneHammingIter`): the iterator yields, in order, k-mers whose strings are `KSpec.hd1` of the source's
    string; these are `3 K` in number and are exactly the strings at Hamming distance 1. -/
theorem C10_hd1_strings (c : Cfg) (hc : c.WF) (s : St c) :
    (hd1 c s).map (toSeq c) = KSpec.hd1 (toSeq c s) ∧ (hd1 c s).length = 3 * c.K ∧
    (∀ x ∈ hd1 c s, KSpec.hamming (toSeq c s) (toSeq c x) = 1) ∧
    (∀ y : List Nat, y.length = c.K → (∀ b ∈ y, b < 4) → KSpec.hamming (toSeq c s) y = 1 → ∃ x ∈ hd1 c s, toSeq c x = y) := by
  have h := toSeq_hd1 c hc s
  have hlt := toSeq_lt4 hc s
  refine ⟨h, ?_, ?_, ?_⟩
  · have := congrArg List.length h
    rw [List.length_map, KSpec.hd1_length _ hlt, toSeq_length] at this
    exact this
  · intro x hx
    have : toSeq c x ∈ KSpec.hd1 (toSeq c s) := by rw [← h]; exact List.mem_map_of_mem hx
    exact (KSpec.hd1_sound _ _ this).2
  · intro y hy hb h1
    have := KSpec.hd1_complete (toSeq c s) y (by rw [hy, toSeq_length]) hb h1
    rw [← h] at this
    obtain ⟨x, hx, rfl⟩ := List.mem_map.mp this
    exact ⟨x, hx, rfl⟩

/-- C10 (`get_extensions`, lib.rs): one k-mer per base of the extension set on that side, ascending, each the string shifted by
    that base on that side -/
theorem C10_getExtensions (c : Cfg) (hc : c.WF) (s : St c) (hs : Inv c s) (e : Compress.Exts) (d : Walk.Dir) :
    (getExtensions c s e d).map (toSeq c) =
      (e.get d).map fun b => match d with
        | .R => KSpec.extendRight (toSeq c s) b
        | .L => KSpec.extendLeft (toSeq c s) b := by
  unfold getExtensions
  rw [List.map_map]
  apply List.map_congr_left
  intro b hb
  have hb4 : b < 4 := by
    unfold Compress.Exts.get at hb
    exact List.mem_range.mp (List.mem_filter.mp hb).1
  cases d with
  | R => exact toSeq_extendRight hc s b hb4
  | L => exact toSeq_extendLeft hc s b hb4

end Kmer
