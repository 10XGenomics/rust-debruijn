import Dbg.Model.Graph
/-! # C09 (continued) — the tip finder that feeds `compress_graph`'s censor list

`CleanGraph::find_bad_nodes` returns, in ascending order and without repetition, exactly the nodes that are dead ends
(no extension on one side, at most one on the other) and satisfy the caller's predicate. -/
namespace Graph
open Compress (Node)
variable {D : Type}

def IsDeadEnd (n : Node D) : Prop :=
  (n.exts.numExtDir .L = 0 ∧ n.exts.numExtDir .R ≤ 1) ∨ (n.exts.numExtDir .R = 0 ∧ n.exts.numExtDir .L ≤ 1)

theorem testTip_iff (n : Node D) (pred : Node D → Bool) : testTip n pred = true ↔ IsDeadEnd n ∧ pred n = true := by
  unfold testTip IsDeadEnd
  simp only
  split
  · rename_i h
    simp only [Bool.and_eq_true, decide_eq_true_eq] at h
    constructor
    · intro hf; cases hf
    · rintro ⟨h1 | h1, _⟩ <;> omega
  · simp only [Bool.and_eq_true, Bool.or_eq_true, beq_iff_eq, decide_eq_true_eq]

/-- **C09 (censor list from the tip finder).** -/
theorem C09_findBadNodes (g : G D) (pred : Node D → Bool) :
    (∀ i, i ∈ findBadNodes g pred ↔ ∃ n, g.nodes[i]? = some n ∧ IsDeadEnd n ∧ pred n = true) ∧
    (findBadNodes g pred).Pairwise (· < ·) := by
  refine ⟨fun i => ?_, ?_⟩
  · unfold findBadNodes
    rw [List.mem_filter, List.mem_range]
    constructor
    · rintro ⟨hi, h⟩
      cases hn : g.nodes[i]? with
      | none => rw [hn] at h; cases h
      | some n =>
        rw [hn] at h
        exact ⟨n, rfl, (testTip_iff n pred).mp h⟩
    · rintro ⟨n, hn, h⟩
      refine ⟨(List.getElem?_eq_some_iff.mp hn).1, ?_⟩
      rw [hn]; exact (testTip_iff n pred).mpr h
  · unfold findBadNodes
    exact List.Pairwise.filter _ (List.pairwise_lt_range)

end Graph
