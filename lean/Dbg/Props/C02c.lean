import Dbg.Lemmas.IsCompressed
import Dbg.Lemmas.Adjacency
/-! # C02 (continued) — the built graph passes the crate's own maximality check

The crate's tests use `is_compressed(spec) == None` as their oracle for "fully compressed".  For the graph
`compress_kmers` builds from a closed table (extensions lead to present k-mers: what `remove_censored_exts` delivers)
with the constantly-true join predicate, `is_compressed` indeed returns `None`: an unbranched edge it would report is a
good link between the end ports of two different nodes, but nodes are the connected components of good links. -/
namespace Compress
open Walk (Conn)
open Filter (ExtSym2)
open Graph (G isCompressed)
variable {D : Type}

theorem fromSingleDirs_lt (l r : Exts) : (Exts.fromSingleDirs l r).val < 256 := by
  unfold Exts.fromSingleDirs
  show ((r.val <<< 4) % 256 ||| (l.val &&& 0xf)) < 2 ^ 8
  apply Nat.or_lt_two_pow
  · exact Nat.mod_lt _ (by decide)
  · exact Nat.lt_of_le_of_lt Nat.and_le_right (by decide)

theorem buildNodeC_x8 (T : Table D) (st : Bool) (join : D → D → Bool) (reduce : D → D → D) (avail : List Nat) (seed : Nat)
    (r : Node D × List Nat × List Nat) (h : buildNodeC T st join reduce avail seed = some r) : r.1.exts.val < 256 := by
  unfold buildNodeC at h
  -- every branch either fails or returns a node whose byte is a `from_single_dirs` value
  repeat' split at h
  all_goals cases h
  all_goals exact fromSingleDirs_lt _ _

/-- **C02 (the crate's own check agrees).** For every well-formed, reciprocal, closed table, in any hash order, the graph
    built with the constantly-true join predicate passes `is_compressed`. -/
theorem C02_is_compressed {T : Table D} {K : Nat} {st : Bool} (wf : WF T K st) (hes2 : ExtSym2 T st) (hcl : Closed T st)
    (reduce : D → D → D) (out : List (Node D × List Nat))
    (ho : compressKmersC T st (fun _ _ => true) reduce = some out) :
    isCompressed (⟨K, out.map (·.1), st⟩ : G D) (fun _ _ => true) = none := by
  obtain ⟨port, members, pg, hconn⟩ := pgraph_components reduce wf hes2.toExtSym (fun _ _ => rfl) out ho
  obtain ⟨provs, hB⟩ := built_of_compress reduce wf hes2.toExtSym (fun _ _ => rfl) out ho
  have hx8 : ∀ (i : Nat) (n : Node D), (out.map (·.1))[i]? = some n → n.exts.val < 256 := by
    intro i n hi
    rw [List.getElem?_map] at hi
    cases hx : out[i]? with
    | none => rw [hx] at hi; cases hi
    | some x =>
      rw [hx] at hi; cases hi
      have hlt : i < provs.length := by rw [hB.len]; exact (List.getElem?_eq_some_iff.mp hx).1
      obtain ⟨_, _, a', hb⟩ := hB.prov i x provs[i] hx (List.getElem?_eq_getElem hlt)
      exact buildNodeC_x8 T st _ reduce _ _ _ hb
  apply pg.isCompressed_none wf hes2 hcl hx8
  intro X Y d o hX hY hl
  -- a good link between two end ports connects them, so they lie in the same node
  rw [List.length_map] at hX hY
  exact (hconn X Y hX hY _ (pg.portMem X d (by rw [List.length_map]; exact hX)) _ (pg.portMem Y o (by rw [List.length_map]; exact hY))).mpr
    (Conn.step (Conn.refl _) ⟨_, _, hl⟩)

/-- from reads: the pruned k-mer table of any read set, listed in any hash order, compresses to a graph on which
    `is_compressed` returns `None` — what the crate's own tests assert on their samples -/
theorem C02_is_compressed_from_reads (K : Nat) (hK : 1 ≤ K) (reads : List (Seq × Exts × Nat)) (hb : Filter.NoBoundary reads)
    (sm : Filter.Summarizer) (st : Bool) (reduce : Filter.Payload → Filter.Payload → Filter.Payload)
    (Td : Table Filter.Payload) (hperm : Td.Perm (Filter.removeCensoredExts st (Filter.refTable K reads sm st))) :
    ∃ out, compressKmersC Td st (fun _ _ => true) reduce = some out ∧
      isCompressed (⟨K, out.map (·.1), st⟩ : G Filter.Payload) (fun _ _ => true) = none := by
  obtain ⟨wfd, hesd, hcl⟩ :=
    pruned_listing (Filter.refTable_wf K hK reads hb sm st) (Filter.refTable_extSym2 K hK reads hb sm st) hperm
  obtain ⟨out, ho, _, _⟩ := compressKmersC_partition (join := fun _ _ => true) reduce wfd hesd.toExtSym (fun _ _ => rfl)
  exact ⟨out, ho, C02_is_compressed wfd hesd hcl reduce out ho⟩

end Compress
