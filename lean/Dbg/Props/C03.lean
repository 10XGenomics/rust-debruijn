import Dbg.Lemmas.Beam
import Dbg.Lemmas.MaxPathFuel
import Dbg.Lemmas.EdgeComplete
/-! # C03 — Extensions and edges denote exactly the real adjacencies, symmetrically

For every graph of the model (any nodes, any K): link lookups are exact, reported edges come from recorded extensions,
walks along edges spell exactly their nodes' k-mers, and `max_path` / `max_path_beam` return such walks.  For graphs
satisfying the node-level invariant `GInv` — those `compress_kmers` builds — edges are symmetric, and an extension is an
edge iff its target k-mer is in the table; built from reads, the extensions are the observed adjacencies between retained
k-mers.  Pruning keeps exactly the extensions whose target is present. -/
namespace Graph
open Compress (Seq Base Exts rc extend Node)
open Walk (Dir)
variable {D : Type}

/-- **C03 (pruning, k-mer tables).** `remove_censored_exts` keeps keys and payloads and keeps a recorded extension
    exactly when its (canonical) target is a valid k-mer; the sharded variant drops an extension exactly when its target
    was seen (`all_kmers`) but is not valid. -/
theorem C03_prune_exact {P : Type} (st : Bool) (T : List (Compress.Entry P)) (all : List Seq) :
    ((Filter.removeCensoredExts st T).length = T.length ∧
      ∀ (x : Nat) (e1 : Compress.Entry P), (Filter.removeCensoredExts st T)[x]? = some e1 →
        ∃ e0 : Compress.Entry P, T[x]? = some e0 ∧ e1.key = e0.key ∧ e1.data = e0.data ∧ e1.exts.val < 256 ∧
          ∀ d b, Filter.has e1.exts d b ↔ Filter.has e0.exts d b ∧ Filter.extTarget st e0.key b d ∈ T.map (·.key)) ∧
    ((Filter.removeCensoredExtsSharded st T all).length = T.length ∧
      ∀ (x : Nat) (e1 : Compress.Entry P), (Filter.removeCensoredExtsSharded st T all)[x]? = some e1 →
        ∃ e0 : Compress.Entry P, T[x]? = some e0 ∧ e1.key = e0.key ∧ e1.data = e0.data ∧
          ∀ d b, Filter.has e1.exts d b ↔ Filter.has e0.exts d b ∧
            ¬ (Filter.extTarget st e0.key b d ∉ T.map (·.key) ∧ Filter.extTarget st e0.key b d ∈ all)) :=
  ⟨Filter.removeCensored_exact st T, Filter.removeCensoredSharded_exact st T all⟩

/-- **C03 (pruning, graph).** `get_valid_exts` reports an extension exactly when it is recorded, its extended
    terminal k-mer resolves through `find_link`, and the node it resolves to is valid. -/
theorem C03_valid_exts_exact (g : G D) (id : Nat) (valid : Option (List Nat)) (nd : Node D) (h : g.nodes[id]? = some nd) :
    ∃ e, getValidExts g id valid = some e ∧
      ∀ d b, Filter.has e d b ↔ Filter.has nd.exts d b ∧ extOk g nd valid d b := getValidExts_exact g id valid nd h

/-- every reported edge comes from a recorded extension whose extended terminal k-mer `find_link` resolved -/
theorem C03_edges_justified (g : G D) (id : Nat) (d : Dir) (es : List (Nat × Dir × Bool)) (h : findEdges g id d = some es)
    (e : Nat × Dir × Bool) (he : e ∈ es) :
    ∃ nd b, g.nodes[id]? = some nd ∧ Filter.has nd.exts d b ∧ findLink g (extend (termKmer g.K nd.seq d) b d) d = some e :=
  (mem_findEdges_iff g id d es h e).mp he

/-- **C03 (walks).** For any walk whose steps follow reported edges (in either direction) through a graph whose nodes
    have at least `K` bases: `sequence_of_path` never panics and the k-mers of the spelled sequence are exactly the k-mers
    of the walked nodes in walking orientation, in order (every step is a `K-1` overlap: `edge_overlap`). -/
theorem C03_walk_sequence (g : G D) (hK : 1 ≤ g.K) (hl : ∀ (i : Nat) (n : Node D), g.nodes[i]? = some n → g.K ≤ n.seq.length)
    (p0 : Nat × Dir) (rest : List (Nat × Dir)) (h0 : (g.nodes[p0.1]?).isSome) (hall : ∀ p ∈ rest, (g.nodes[p.1]?).isSome)
    (hch : ChainStep g p0 rest) :
    ∃ S, sequenceOfPath g (p0 :: rest) = some S ∧ Compress.windowsOf g.K S = (p0 :: rest).flatMap (orientedKmers g) :=
  walk_sequence g hK hl p0 rest h0 hall hch

/-- **C03 (best path).** `max_path` returns a walk for every graph, score and solidity predicate: consecutive entries
    follow reported edges, every node exists, no node is visited twice. -/
theorem C03_maxPath_walk (g : G D) (score : D → Int) (solid : D → Bool) : IsWalk g (maxPath g score solid) :=
  maxPath_walk g score solid

/-- the spelled best path consists of exactly the k-mers of its nodes -/
theorem C03_maxPath_sequence (g : G D) (hK : 1 ≤ g.K) (hl : ∀ (i : Nat) (n : Node D), g.nodes[i]? = some n → g.K ≤ n.seq.length)
    (score : D → Int) (solid : D → Bool) (p0 : Nat × Dir) (rest : List (Nat × Dir)) (hp : maxPath g score solid = p0 :: rest) :
    ∃ S, sequenceOfPath g (maxPath g score solid) = some S ∧
      Compress.windowsOf g.K S = (maxPath g score solid).flatMap (orientedKmers g) := by
  have hw := maxPath_walk g score solid
  rw [hp] at hw ⊢
  exact walk_sequence g hK hl p0 rest (hw.nodes p0 (by simp)) (fun p h => hw.nodes p (by simp [h])) (hw.chain p0 rest rfl)

/-- **the fuel of the model of `max_path` is adequate**: each step of the greedy walk takes a node that was not used before,
    so from any start node both arms give the same result for every amount of fuel from `nodes.length` on — the
    `loop` of the crate ends after at most `nodes.length` steps per direction. -/
theorem C03_maxPath_fuel (g : G D) (score : D → Int) (solid : D → Bool) (best : Nat) (hbest : best < g.nodes.length)
    (f : Nat) (hf : g.nodes.length ≤ f) :
    maxPathArm g score solid false f (best, .L) [best] [(best, .L)] =
      maxPathArm g score solid false g.nodes.length (best, .L) [best] [(best, .L)] ∧
    maxPathArm g score solid true f (best, .R) (maxPathArm g score solid false g.nodes.length (best, .L) [best] [(best, .L)]).2
        (maxPathArm g score solid false g.nodes.length (best, .L) [best] [(best, .L)]).1 =
      maxPathArm g score solid true g.nodes.length (best, .R) (maxPathArm g score solid false g.nodes.length (best, .L) [best] [(best, .L)]).2
        (maxPathArm g score solid false g.nodes.length (best, .L) [best] [(best, .L)]).1 := by
  have h0 : [best].Nodup := by simp
  have h1 : ∀ u ∈ [best], u < g.nodes.length := by
    intro u hu; simp only [List.mem_cons, List.mem_nil_iff, or_false] at hu; subst hu; exact hbest
  obtain ⟨r1, r2, r3⟩ := arm_used g score solid false g.nodes.length (best, .L) [best] [(best, .L)] h0 h1
  refine ⟨arm_fuel g score solid false f g.nodes.length _ _ _ h0 h1 (by omega) (by omega), ?_⟩
  exact arm_fuel g score solid true f g.nodes.length _ _ _ r1 r2 (by omega) (by omega)

/-- **C03 (beam search).** Every path `max_path_beam` returns — for every graph, beam width and score — is a trail:
    consecutive entries follow reported edges and every node exists (a node may occur twice: the search keeps paths
    that just closed a cycle). -/
theorem C03_maxPathBeam_trail (g : G D) (beam : Nat) (score : D → Int) (path : List (Nat × Dir))
    (h : maxPathBeam g beam score = some path) : IsTrail g path :=
  maxPathBeam_trail g beam score path h

/-- the spelled beam path consists of exactly the k-mers of its nodes, in walking orientation and order -/
theorem C03_maxPathBeam_sequence (g : G D) (hK : 1 ≤ g.K) (hl : ∀ (i : Nat) (n : Node D), g.nodes[i]? = some n → g.K ≤ n.seq.length)
    (beam : Nat) (score : D → Int) (p0 : Nat × Dir) (rest : List (Nat × Dir)) (hp : maxPathBeam g beam score = some (p0 :: rest)) :
    ∃ S, sequenceOfPath g (p0 :: rest) = some S ∧ Compress.windowsOf g.K S = (p0 :: rest).flatMap (orientedKmers g) := by
  have hw := maxPathBeam_trail g beam score _ hp
  exact walk_sequence g hK hl p0 rest (hw.nodes p0 (by simp)) (fun p h => hw.nodes p (by simp [h])) (hw.chain p0 rest rfl)

/-- **the beam search terminates** on every non-empty graph within `nodes.length + 1` rounds (an active path repeats no
    node), independently of the fuel of the model; the only way to panic is `states[0]` on an empty beam. -/
theorem C03_maxPathBeam_terminates (g : G D) (beam : Nat) (score : D → Int) (hne : g.nodes.isEmpty = false) :
    (∃ sts, beamLoop g score beam (g.nodes.length + 2) (beamInit g score) = some sts ∧
      maxPathBeam g beam score = sts.head?.map (·.path)) ∧
    ∀ fuel, g.nodes.length + 1 ≤ fuel →
      beamLoop g score beam fuel (beamInit g score) = beamLoop g score beam (g.nodes.length + 2) (beamInit g score) :=
  ⟨maxPathBeam_returns g beam score hne, fun fuel hf => maxPathBeam_fuel g beam score fuel hf⟩

/-- **the beam search returns** on every non-empty graph whose recorded extensions all resolve (every side that records an
    extension has an edge), for every beam width ≥ 1.  (With a dangling extension the search can drop its only state and
    `states[0]` panics — node `ACGT`, right extension `A` recorded, no such node: confirmed on the crate; `max_path` has no
    such problem.  Pruned pipeline graphs are resolving: `Compress.PGraph.resolving`.) -/
theorem C03_maxPathBeam_returns (g : G D) (hr : Resolving g) (hne : g.nodes.isEmpty = false) (beam : Nat) (hb : 1 ≤ beam)
    (score : D → Int) : ∃ path, maxPathBeam g beam score = some path ∧ IsTrail g path := by
  obtain ⟨path, h⟩ := maxPathBeam_some g hr hne beam hb score
  exact ⟨path, h, maxPathBeam_trail g beam score path h⟩

/-- **C03 (symmetry).** In every graph satisfying the node-level invariant `GInv`: whenever `(v, s, f)` is reported from
    side `d` of `u`, node `v` reports `u` back, from the facing side `s` arriving at side `d` — the two sides of a
    palindromic single-k-mer node counting as one.  `GInv` is decidable (`ginvOK_sound`) and the driver evaluates it on
    every graph the crate builds in the pipeline requests. -/
theorem C03_edges_symmetric (g : G D) (hg : GInv g) (u : Nat) (d : Dir) (es : List (Nat × Dir × Bool))
    (he : findEdges g u d = some es) (v : Nat) (s : Dir) (f : Bool) (hm : (v, s, f) ∈ es) : ReachesBack g u d v s :=
  edges_symmetric g hg u d es he v s f hm

theorem C03_ginv_decidable (g : G D) (h : ginvOK g = true) : GInv g := ginvOK_sound g h

/-- non-vacuity: the two-node chain ACGT → GTAA (K = 3, stranded) satisfies the invariant -/
example : ginvOK (⟨3, [⟨[0,1,2,3], ⟨0x10⟩, ()⟩, ⟨[2,3,0,0], ⟨0x02⟩, ()⟩], true⟩ : G Unit) = true := by decide

/-- **C03 (the invariant holds for built graphs).** For every well-formed table that is reciprocal towards every present
    neighbour (`ExtSym2`, what `filter_kmers` + `remove_censored_exts` deliver from reads: `pipeline_table_ok2`) and every
    symmetric join predicate, the nodes `compress_kmers` produces form a graph satisfying `GInv`. -/
theorem C03_ginv_of_compress {T : Compress.Table D} {K : Nat} {st : Bool} {join : D → D → Bool} (reduce : D → D → D)
    (wf : Compress.WF T K st) (hes2 : Filter.ExtSym2 T st) (hj : ∀ a b, join a b = join b a)
    (out : List (Node D × List Nat)) (ho : Compress.compressKmersC T st join reduce = some out) :
    GInv (⟨K, out.map (·.1), st⟩ : G D) := Compress.compress_ginv reduce wf hes2 hj out ho

/-- **C03 (symmetry, from reads).** For every read set (empty boundary extensions), K ≥ 4, both summarizers, stranded or
    not, any hash order: in the graph built by filter → prune → compress every reported edge is reported back (the two sides
    of a palindromic single-k-mer node counting as one). -/
theorem C03_edges_symmetric_from_reads (K : Nat) (hK : 4 ≤ K) (reads : List (Seq × Exts × Nat)) (hb : Filter.NoBoundary reads)
    (sm : Filter.Summarizer) (st : Bool) (join : Filter.Payload → Filter.Payload → Bool) (hj : ∀ a b, join a b = join b a)
    (reduce : Filter.Payload → Filter.Payload → Filter.Payload) (T : List (Compress.Entry Filter.Payload))
    (hp : T.Perm (Filter.removeCensoredExts st (Filter.refTable K reads sm st)))
    (out : List (Node Filter.Payload × List Nat)) (ho : Compress.compressKmersC T st join reduce = some out)
    (u : Nat) (d : Dir) (es : List (Nat × Dir × Bool))
    (he : findEdges (⟨K, out.map (·.1), st⟩ : G Filter.Payload) u d = some es) (v : Nat) (s : Dir) (f : Bool) (hm : (v, s, f) ∈ es) :
    ReachesBack (⟨K, out.map (·.1), st⟩ : G Filter.Payload) u d v s := by
  obtain ⟨wf, hes2⟩ := Filter.pipeline_table_ok2 K (by omega) reads hb sm st T hp
  exact edges_symmetric _ (Compress.compress_ginv reduce wf hes2 hj out ho) u d es he v s f hm

/-- **C03 (edges = recorded extensions towards present k-mers).** In the graph `compress_kmers` builds from any
    well-formed table that is reciprocal towards present neighbours: an extension recorded on a node side resolves through
    `find_link` — is reported as an edge — **iff** the canonical form of the k-mer it leads to is a key of the table.
    (`⇐` is the completeness of `find_link`, which inspects node ends only: `Compress.ext_target_port`.) -/
theorem C03_edges_complete {T : Compress.Table D} {K : Nat} {st : Bool} {join : D → D → Bool} (reduce : D → D → D)
    (wf : Compress.WF T K st) (hes2 : Filter.ExtSym2 T st) (hj : ∀ a b, join a b = join b a)
    (out : List (Node D × List Nat)) (ho : Compress.compressKmersC T st join reduce = some out)
    (X : Node D × List Nat) (hX : X ∈ out) (s : Dir) (β : Base) (hβ : Filter.has X.1.exts s β) :
    (findLink (⟨K, out.map (·.1), st⟩ : G D) (extend (termKmer K X.1.seq s) β s) s).isSome ↔
      (Compress.canonSt st (extend (termKmer K X.1.seq s) β s)).1 ∈ T.map (·.key) := by
  obtain ⟨_, _, pg, _⟩ := Compress.pgraph_of_compress reduce wf hes2.toExtSym hj out ho
  obtain ⟨i, hi⟩ := List.getElem?_of_mem (List.mem_map_of_mem (f := (·.1)) hX)
  exact pg.edge_iff wf hes2 i X.1 hi s β hβ

/-- a node side that ends on the far side of its port k-mer: the graph is unstranded and the terminal k-mer is the
    reverse complement of the port's key -/
theorem port_flipped {P : Type} {T : Compress.Table P} {K : Nat} {st : Bool} {nd : Node P} {s : Dir} {p : Nat × Dir}
    {ex : Compress.Entry P} (np : Compress.NodePort T K st nd s p ex) (h : p.2 ≠ s) :
    st = false ∧ p.2 = s.flip ∧ termKmer K nd.seq s = rc ex.key := by
  refine ⟨?_, (Compress.dir_ne_iff p.2 s).mp h, by rw [np.term, if_neg h]⟩
  cases st with
  | false => rfl
  | true => exact absurd (np.strand rfl) h

theorem occ_rc (K : Nat) (reads : List (Seq × Exts × Nat)) (u : Seq) (d : Dir) (b : Base)
    (h : Filter.Occ K reads false u d.flip (Compress.comp b)) : Filter.Occ K reads false (rc u) d b := by
  obtain ⟨r, hr, i, hi, hc⟩ := h
  refine ⟨r, hr, i, hi, ?_⟩
  rcases hc with ⟨h1, h2⟩ | ⟨_, h1, h2⟩
  · right
    exact ⟨rfl, by rw [h1], h2⟩
  · left
    rw [Dir.flip_flip, Compress.comp_comp] at h2
    exact ⟨by rw [h1, Compress.rc_rc], h2⟩

/-- **C03 (from reads: no dangling extension, every extension an observed adjacency).** In the graph built by
    filter → prune → compress from any read set (empty boundary extensions, K ≥ 4, both summarizers, stranded or not, any
    hash order), every extension recorded on a node side (i) resolves through `find_link` to a node, and (ii) is a
    (K+1)-mer of the input: the node's terminal k-mer occurs in a read (as spelled or, unstranded, reverse-complemented)
    with that base next to it on that side. -/
theorem C03_exts_resolve_from_reads (K : Nat) (hK : 4 ≤ K) (reads : List (Seq × Exts × Nat)) (hb : Filter.NoBoundary reads)
    (sm : Filter.Summarizer) (st : Bool) (join : Filter.Payload → Filter.Payload → Bool) (hj : ∀ a b, join a b = join b a)
    (reduce : Filter.Payload → Filter.Payload → Filter.Payload) (T : List (Compress.Entry Filter.Payload))
    (hp : T.Perm (Filter.removeCensoredExts st (Filter.refTable K reads sm st)))
    (out : List (Node Filter.Payload × List Nat)) (ho : Compress.compressKmersC T st join reduce = some out)
    (X : Node Filter.Payload × List Nat) (hX : X ∈ out) (s : Dir) (β : Base) (hβ : Filter.has X.1.exts s β) :
    (findLink (⟨K, out.map (·.1), st⟩ : G Filter.Payload) (extend (termKmer K X.1.seq s) β s) s).isSome ∧
      Filter.Occ K reads st (termKmer K X.1.seq s) s β := by
  obtain ⟨wf, hes2⟩ := Filter.pipeline_table_ok2 K (by omega) reads hb sm st T hp
  obtain ⟨p, ex, np⟩ := Compress.node_port_exists reduce wf hes2.toExtSym hj out ho X hX s
  have hbx := (np.exts β).mp hβ
  obtain ⟨_, hcan⟩ := Compress.node_target X.1 s p ex np β
  obtain ⟨e0, he0, hk, _, _, hx⟩ := Filter.pruned_of_mem st _ ex (hp.mem_iff.mp (List.mem_of_getElem? np.ent))
  obtain ⟨h1, h2⟩ := (hx p.2 (if p.2 = s then β else Compress.comp β)).mp hbx
  constructor
  · rw [C03_edges_complete reduce wf hes2 hj out ho X hX s β hβ, hcan, ← Filter.extTarget_eq, hk]
    have hkeys : ((Filter.removeCensoredExts st (Filter.refTable K reads sm st)).map (·.key)) = (Filter.refTable K reads sm st).map (·.key) := by
      simp [Filter.removeCensoredExts, List.map_map, Function.comp_def]
    exact (hp.map (·.key)).mem_iff.mpr (by rw [hkeys]; exact h2)
  · have hocc := Filter.table_occ K (by omega) reads hb sm st e0 he0 p.2 _ h1
    rw [np.term, hk]
    by_cases h : p.2 = s
    · simp only [h, if_true] at hocc ⊢
      exact hocc
    · obtain ⟨rfl, hs, _⟩ := port_flipped np h
      simp only [h, if_false] at hocc ⊢
      rw [hs] at hocc
      exact occ_rc K reads e0.key s β hocc

/-- **C03 (from reads: every observed adjacency between retained k-mers is recorded).** Conversely, in the same graph: if
    the terminal k-mer on side `s` of a node occurs in a read with base `β` next to it on that side, the k-mer this leads
    to was retained, and the terminal k-mer is not its own reverse complement (unstranded; the two sides of a palindromic
    single-k-mer node count as one and are excluded here), then the node records `β` on side `s` — and, by
    `C03_exts_resolve_from_reads`, reports the edge. -/
theorem C03_observed_adjacency_recorded (K : Nat) (hK : 4 ≤ K) (reads : List (Seq × Exts × Nat)) (hb : Filter.NoBoundary reads)
    (sm : Filter.Summarizer) (st : Bool) (join : Filter.Payload → Filter.Payload → Bool) (hj : ∀ a b, join a b = join b a)
    (reduce : Filter.Payload → Filter.Payload → Filter.Payload) (T : List (Compress.Entry Filter.Payload))
    (hp : T.Perm (Filter.removeCensoredExts st (Filter.refTable K reads sm st)))
    (out : List (Node Filter.Payload × List Nat)) (ho : Compress.compressKmersC T st join reduce = some out)
    (X : Node Filter.Payload × List Nat) (hX : X ∈ out) (s : Dir) (β : Base)
    (hocc : Filter.Occ K reads st (termKmer K X.1.seq s) s β)
    (htgt : (Compress.canonSt st (extend (termKmer K X.1.seq s) β s)).1 ∈ (Filter.refTable K reads sm st).map (·.key))
    (hnp : st = true ∨ rc (termKmer K X.1.seq s) ≠ termKmer K X.1.seq s) :
    Filter.has X.1.exts s β := by
  obtain ⟨wf, hes2⟩ := Filter.pipeline_table_ok2 K (by omega) reads hb sm st T hp
  obtain ⟨p, ex, np⟩ := Compress.node_port_exists reduce wf hes2.toExtSym hj out ho X hX s
  obtain ⟨_, hcan⟩ := Compress.node_target X.1 s p ex np β
  rw [np.exts β]
  obtain ⟨e0, he0, hk, _, _, hx⟩ := Filter.pruned_of_mem st _ ex (hp.mem_iff.mp (List.mem_of_getElem? np.ent))
  rw [hx]
  have hcanon : st = false → ¬ (rc ex.key < ex.key) := fun h => wf.canon h p.1 ex np.ent
  refine ⟨?_, by rw [← hk, Filter.extTarget_eq, ← hcan]; exact htgt⟩
  by_cases h : p.2 = s
  · -- the k-mer lies in the node as spelled
    have hterm : termKmer K X.1.seq s = ex.key := by rw [np.term, if_pos h]
    rw [hterm] at hocc hnp
    have hpal : (!st && Compress.isPalindrome ex.key) = false := by
      rcases hnp with h1 | h1
      · rw [h1]; rfl
      · rw [Compress.isPal_false_of_ne _ h1]; simp
    have hc := Compress.canonSt_self hcanon hpal
    rw [hk] at hc hpal
    have := Filter.occ_table K (by omega) reads hb sm st e0.key s β (by rw [← hk]; exact hocc) e0 he0 false hc hpal
    simpa [h, Compress.condFlip] using this
  · obtain ⟨rfl, hs, hterm⟩ := port_flipped np h
    rw [hterm] at hocc hnp
    have hne : rc ex.key ≠ ex.key := by
      rcases hnp with h1 | h1
      · cases h1
      · intro e; apply h1; rw [Compress.rc_rc, e]
    have hpal := Compress.isPal_false_of_ne _ hne
    have hc : Compress.canonSt false (rc ex.key) = (ex.key, true) := by
      simp only [Compress.canonSt, Bool.false_eq_true, if_false]
      exact Compress.canonSt_rc (hcanon rfl) hpal
    rw [hk] at hc hpal
    have := Filter.occ_table K (by omega) reads hb sm false (rc e0.key) s β (by rw [← hk]; exact hocc) e0 he0 true hc (by simp [hpal])
    have hne' : ¬ (s.flip = s) := by cases s <;> simp [Dir.flip]
    simpa [hs, hne', Compress.condFlip] using this

/-- **C03 (link lookups are exact).** For every graph, every k-mer and side: the answer of `find_link` satisfies the
    executable predicate `linkExact` (Spec/C03) that the check evaluates on the crate's answers. -/
theorem C03_link_exact (g : G D) (km : Seq) (d : Dir) : linkExact g km d (findLink g km d) = true := by
  cases h : findLink g km d with
  | some e =>
    obtain ⟨v, s, f⟩ := e
    obtain ⟨nd, hv, hterm, hf0, hf1⟩ := findLink_sound g km d v s f h
    unfold linkExact
    simp only [hv]
    cases f with
    | false =>
      simp only [Bool.false_eq_true, if_false] at hterm ⊢
      have hs := hf0 rfl
      subst hs
      simp [hterm]
    | true =>
      simp only [if_true] at hterm ⊢
      obtain ⟨h1, h2⟩ := hf1 rfl
      subst h1
      simp [h2, hterm]
  | none =>
    obtain ⟨h1, h2⟩ := (findLink_eq_none g km d).mp h
    unfold linkExact
    simp only [List.all_eq_true, Bool.and_eq_true, bne_iff_ne, ne_eq, Bool.or_eq_true]
    intro n hn
    -- a node carrying the k-mer would have been found
    have hnone : ∀ k side, searchKmer g k side = none → ¬ termKmer g.K n.seq side = k := by
      intro k side hs e
      have := (searchKmer_complete g k side).mpr ⟨n, hn, e⟩
      rw [hs] at this; cases this
    refine ⟨hnone km d.flip h1, ?_⟩
    cases hst : g.stranded with
    | true => exact Or.inl rfl
    | false => exact Or.inr (hnone (rc km) d (h2 hst))

end Graph
