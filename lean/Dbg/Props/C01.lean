import Dbg.Lemmas.NodeExts
import Dbg.Lemmas.NoExts
/-! # C01 — Compressed graph is a lossless partition of the input k-mer set

Theorems about the model `Compress.compressKmersC` of `compress_kmers_with_hash` (the table is listed in the hash map's
index order; the from-slice and no-exts entry points are wrappers that build such a table), for **every**
well-formed table with reciprocal extensions (`WF`, `ExtSym` — what `filter_kmers` delivers) and a symmetric join
predicate, with no bound on the number of k-mers, K ≥ 1, stranded and unstranded.

The recorded-steps clause is proved as `C01_steps_recorded`, in terms of `LinkFacts`; the executable `stepsOK` of
`Spec/C01`, which the driver evaluates on the crate's nodes, is not connected to it by a theorem. -/
namespace Compress
open Walk (Dir)
variable {D : Type}

/-- the partition statement for a table listed in any order: `T0` is what some construction delivers (well-formed,
    reciprocal), `T` the order in which the hash map lists it -/
theorem partition_of_perm {T0 T : Table D} {K : Nat} {st : Bool} {join : D → D → Bool} (reduce : D → D → D)
    (hp : T.Perm T0) (wf : WF T0 K st) (hes : Filter.ExtSym2 T0 st) (hj : ∀ a b, join a b = join b a) :
    ∃ out, compressKmersC T st join reduce = some out ∧
      (out.flatMap fun x => (windowsOf K x.1.seq).map (fun w => (canonOf st w).1)).Perm (T0.map (·.key)) ∧
      ∀ x ∈ out, K ≤ x.1.seq.length := by
  obtain ⟨out, h1, h2, h3⟩ := compressKmersC_partition (join := join) reduce (Filter.wf_perm st _ T K hp wf)
    (Filter.extSym2_perm st _ T K hp wf hes).toExtSym hj
  exact ⟨out, h1, h2.trans (hp.map _), h3⟩

/-- **C01 (lossless partition).** Graph construction never panics, every node has at least K bases, and the canonical
    k-mers of all node sequences are a permutation of the table's keys (each input k-mer in exactly one node at exactly
    one offset, nothing foreign). -/
theorem C01_partition {T : Table D} {K : Nat} {st : Bool} {join : D → D → Bool} (reduce : D → D → D)
    (wf : WF T K st) (hes : ExtSym T st) (hj : ∀ a b, join a b = join b a) :
    ∃ out, compressKmersC T st join reduce = some out ∧
      (out.flatMap fun x => (windowsOf K x.1.seq).map (fun w => (canonOf st w).1)).Perm (T.map (·.key)) ∧
      ∀ x ∈ out, K ≤ x.1.seq.length :=
  compressKmersC_partition reduce wf hes hj

/-- **C01 (node assembly and payload).** The k-mers of a node's sequence are the oriented keys of the ids on its left path
    (reversed), its seed and its right path, each the previous one extended by one base; its payload is the caller's
    reduction folded over the payloads of exactly those k-mers, left path first. -/
theorem C01_node_assembly {T : Table D} {K : Nat} {st : Bool} {join : D → D → Bool} (reduce : D → D → D)
    (wf : WF T K st) (hes : ExtSym T st) (avail : List Nat) (seed : Nat) (es : Entry D) (hseed : T[seed]? = some es) :
    ∃ nd, buildNodeC T st join reduce avail seed =
        some (nd, (Walk.build (linkOf T st join) avail seed).1, (Walk.build (linkOf T st join) avail seed).2) ∧
      windowsOf K nd.seq = ((leftW T st join avail seed).1.map (oL T)).reverse ++ [es.key] ++ (rightW T st join avail seed).1.map (oR T) ∧
      nd.data = ((leftW T st join avail seed).1 ++ (rightW T st join avail seed).1).foldl
        (fun a p => match T[p.1]? with | some e => reduce a e.data | none => a) es.data ∧
      ChainL es.key ((leftW T st join avail seed).1.map (oL T)) ∧ ChainR es.key ((rightW T st join avail seed).1.map (oR T)) := by
  obtain ⟨nd, h1, h2, h3⟩ := buildNodeC_spec (join := join) reduce wf hes avail seed es hseed
  exact ⟨nd, h1, h2, h3, (walk_chainL T st join (Walk.rm avail seed) seed .L es hseed).1,
    walk_chainR T st join (leftW T st join avail seed).2 seed .R es hseed⟩

/-- C01 (ids): the id-nodes form a partition of the table -/
theorem C01_ids_partition {T : Table D} {K : Nat} {st : Bool} {join : D → D → Bool}
    (wf : WF T K st) (hes : ExtSym T st) (hj : ∀ a b, join a b = join b a) :
    let ns := Walk.compress (linkOf T st join) (List.range T.length) (List.range T.length)
    ns.flatten.Nodup ∧ (∀ z, z ∈ ns.flatten ↔ z < T.length) :=
  let h := compress_components_concrete wf hes hj
  ⟨h.1, h.2.1⟩

/-- C01: on reciprocal tables the code-shaped walk never reaches the "unreachable" panic and computes the abstract walk -/
theorem C01_walk_no_panic {T : Table D} {K : Nat} {st : Bool} {join : D → D → Bool}
    (wf : WF T K st) (hes : ExtSym T st) (hj : ∀ a b, join a b = join b a) (avail : List Nat) (x : Nat) (d : Dir) :
    ∃ e, walkC T st join avail x d =
      some ((Walk.walk (linkOf T st join) avail x d).1, e, (Walk.walk (linkOf T st join) avail x d).2) :=
  (compress_components_concrete wf hes hj).2.2.2 avail x d

/-- the model's id lists are those of the abstract loop, and a node's canonical k-mers are the keys of its ids -/
theorem C01_nodes_are_id_paths {T : Table D} {K : Nat} {st : Bool} {join : D → D → Bool} (reduce : D → D → D)
    (wf : WF T K st) (hes : ExtSym T st) :
    ∃ out, compressKmersC T st join reduce = some out ∧
      out.map (·.2) = Walk.compress (linkOf T st join) (List.range T.length) (List.range T.length) ∧
      ∀ x ∈ out, (windowsOf K x.1.seq).map (fun w => (canonOf st w).1) = x.2.map (keyOf T) := by
  obtain ⟨out, h1, h2, h3⟩ := compressLoopC_spec (join := join) reduce wf hes (List.range T.length) (List.range T.length)
    (fun i hi => List.mem_range.mp hi)
  exact ⟨out, h1, h2, fun x hx => (h3 x hx).1⟩

/-- **C01 (recorded steps).** Every step between consecutive k-mers of a node — along the left path and along the
    right path of `build_node` — is a good link: the k-mer being left records exactly one extension on that side
    (the base of the step), the k-mer being entered records exactly one extension on the facing side, neither is a
    palindrome (unstranded), and `join` accepted the pair. -/
theorem C01_steps_recorded (T : Table D) (st : Bool) (join : D → D → Bool) (avail : List Nat) (seed : Nat) :
    LinkedFrom (linkOf T st join) seed .L (leftW T st join avail seed).1 ∧
    LinkedFrom (linkOf T st join) seed .R (rightW T st join avail seed).1 ∧
    ∀ x d y d', linkOf T st join x d = some (y, d') → ∃ ex ey b, LinkFacts T st join x d y d' ex ey b :=
  ⟨walk_linked _ _ _ _, walk_linked _ _ _ _, fun _ _ _ _ h => linkOf_inv T st join h⟩

/-- **C01 (from reads).** For every read set (empty boundary extensions), every K ≥ 4, both summarizers, every
    memory budget, stranded or not, and whatever order the hash map lists the table in: filtering, pruning and
    compressing never panics, and the canonical k-mers of the node sequences are a permutation of the k-mers the
    filter accepted — each in exactly one node at exactly one offset, nothing foreign. -/
theorem C01_from_reads (K : Nat) (hK : 4 ≤ K) (reads : List (Seq × Exts × Nat)) (hb : Filter.NoBoundary reads)
    (sm : Filter.Summarizer) (st ra : Bool) (mem bpu sz : Nat) (hm : 1 ≤ mem) (hbp : 1 ≤ bpu)
    (join : Filter.Payload → Filter.Payload → Bool) (hj : ∀ a b, join a b = join b a) (reduce : Filter.Payload → Filter.Payload → Filter.Payload)
    (T : List (Entry Filter.Payload)) :
    ∃ r, Filter.filterKmers K reads sm st ra mem bpu sz = some r ∧
      (T.Perm (Filter.removeCensoredExts st r.table) →
        ∃ out, compressKmersC T st join reduce = some out ∧
          (out.flatMap fun x => (windowsOf K x.1.seq).map (fun w => (canonOf st w).1)).Perm (r.table.map (·.key)) ∧
          ∀ x ∈ out, K ≤ x.1.seq.length) := by
  obtain ⟨r, e, ht, _⟩ := Filter.filterKmers_eq_ref K reads sm st ra mem bpu sz hK hm hbp
  refine ⟨r, e, fun hp => ?_⟩
  rw [ht] at hp ⊢
  obtain ⟨wf, hes⟩ := Filter.pipeline_table_ok2 K (by omega) reads hb sm st _ (.refl _)
  have h := partition_of_perm reduce hp wf hes hj
  rwa [show (Filter.removeCensoredExts st (Filter.refTable K reads sm st)).map (·.key) = (Filter.refTable K reads sm st).map (·.key) by
    simp [Filter.removeCensoredExts, List.map_map, Function.comp_def]] at h

/-- **C01 (`compress_kmers_no_exts`, stranded or not).** For pairwise distinct k-mers of length K (canonical ones when
    unstranded) and a symmetric join, the entry point that discovers the extensions itself never panics and partitions
    exactly the given k-mers into nodes, in whatever order the hash map lists its table. This is the crate with the repair
    D9; the witness at the end of the file shows the stranded case without it. -/
theorem C01_no_exts (st : Bool) (K : Nat) (hK : 1 ≤ K) (kd : List (Seq × D)) (hlen : ∀ p ∈ kd, p.1.length = K)
    (hnd : (kd.map (·.1)).Nodup) (hcan : st = false → ∀ p ∈ kd, ¬ rc p.1 < p.1) (join : D → D → Bool) (hj : ∀ a b, join a b = join b a)
    (reduce : D → D → D) (T : Table D) (hp : T.Perm (noExtsTable st kd)) :
    ∃ out, compressKmersC T st join reduce = some out ∧
      (out.flatMap fun x => (windowsOf K x.1.seq).map (fun w => (canonOf st w).1)).Perm (kd.map (·.1)) ∧
      ∀ x ∈ out, K ≤ x.1.seq.length := by
  obtain ⟨wf, hes⟩ := noExts_table_ok st K hK kd hlen hnd hcan
  rw [← noExts_keys st kd]
  exact partition_of_perm reduce hp wf hes hj

/-- `partitionOK` evaluated on the two 3-mers ACG → CGT (stranded) and the node ACGT -/
example : partitionOK 3 true ([⟨[0,1,2], ⟨0x80⟩, 1⟩, ⟨[1,2,3], ⟨0x01⟩, 1⟩] : Table Nat)
    [⟨[0,1,2,3], ⟨0⟩, 2⟩] = true := by decide

/-- D9, the witness: the two 4-mers of the read `CAATG`, stranded. Looking neighbours up by canonical form (what
    `compress_kmers_no_exts` did in both modes) records `G` to the right of `CAAT` but nothing to the left of `AATG` (first example; the walk then panics, as the
    crate did). Looked up as given, the two k-mers form the one node `CAATG`. -/
example : (discoverExts false [[0, 0, 3, 2], [1, 0, 0, 3]] [1, 0, 0, 3]).val = 0x40 ∧
    (discoverExts false [[0, 0, 3, 2], [1, 0, 0, 3]] [0, 0, 3, 2]).val = 0x00 := by decide
example : (discoverExts true [[0, 0, 3, 2], [1, 0, 0, 3]] [1, 0, 0, 3]).val = 0x40 ∧
    (discoverExts true [[0, 0, 3, 2], [1, 0, 0, 3]] [0, 0, 3, 2]).val = 0x02 := by decide
example : (compressKmersC (noExtsTable true [(([0, 0, 3, 2] : Seq), (1 : Nat)), ([1, 0, 0, 3], 1)]) true (fun _ _ => true) (· + ·)).map
    (fun out => out.map (·.1.seq)) = some [[1, 0, 0, 3, 2]] := by decide +kernel
end Compress
