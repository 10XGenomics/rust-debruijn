import Dbg.Lemmas.Idempotent
import Dbg.Props.C20
/-! # C09 / C03 / C20 — the result of `compress_graph` is again a well-formed graph; re-compression is idempotent

`Compress.pgraph_compressGraph`: the graph returned by `compress_graph` (constantly-true join, no censoring) on a *ported*
graph — the graph `compress_kmers` builds from a table, or the shard graphs side by side — is again ported, into the
pruned table.  Consequences, for every graph built from a well-formed reciprocal table with any symmetric join predicate:
the result satisfies the node-level invariant `GInv` (so its edges are symmetric, `C03_edges_symmetric`, and its GFA
export is complete, `gfa_links_complete_ginv`), `find_link` is complete on it, and compressing it again changes nothing
but node order and orientation. -/
namespace CompressGraph
open Compress (Table WF SameParts Node compressKmersC)
open Graph (G GInv findLink termKmer)
open Filter (has)
variable {D : Type}

/-- **C09 / C03 (the result is well-formed).** `compress_kmers(T, join0)` followed by `compress_graph` returns a graph
    that satisfies `GInv` and `PalEnd`, and on which a recorded node extension resolves through `find_link` iff the k-mer
    it leads to is a key of the table. -/
theorem C09_result_wellformed {T : Table D} {K : Nat} {st : Bool} (wf : WF T K st) (hes2 : Filter.ExtSym2 T st)
    (reduce : D → D → D) (join0 : D → D → Bool) (hj0 : ∀ a b, join0 a b = join0 b a)
    (out : List (Node D × List Nat)) (ho : compressKmersC T st join0 reduce = some out) :
    ∃ g' paths, compressGraph st (⟨K, out.map (·.1), st⟩ : G D) (fun _ _ => true) reduce [] = some (g', paths) ∧
      GInv g' ∧ PalEnd g' ∧
      ∀ (i : Nat) (n : Node D) (s : Walk.Dir) (β : Compress.Base), g'.nodes[i]? = some n → has n.exts s β →
        ((findLink g' (Compress.extend (termKmer g'.K n.seq s) β s) s).isSome ↔
          (Compress.canonSt st (Compress.extend (termKmer g'.K n.seq s) β s)).1 ∈ T.map (·.key)) := by
  obtain ⟨port, members, pg, _⟩ := Compress.pgraph_of_compress reduce wf hes2.toExtSym hj0 out ho
  obtain ⟨g', paths, port', mem', hcg, hK, hst, pg3, _, _⟩ := Compress.pgraph_compressGraph pg wf hes2 reduce
  have wf1 := Filter.wf_removeCensored st T K wf
  have hes1 := Filter.extSym2_removeCensored st T K wf hes2
  have wf2 := Filter.wf_removeCensored st _ K wf1
  have hes2' := Filter.extSym2_removeCensored st _ K wf1 hes1
  have heta := Compress.graph_eta g' K st hK hst
  refine ⟨g', paths, hcg, ?_, ?_, ?_⟩
  · rw [heta]; exact pg3.ginv wf2 hes2'
  · intro i n s hstf hi hrc
    rw [hK] at hrc ⊢
    exact pg3.palEnd i n s (by rw [← hst]; exact hstf) hi hrc
  · intro i n s β hi hβ
    have h := pg3.edge_iff wf2 hes2' i n hi s β hβ
    rw [hK]
    rw [← heta] at h
    rw [h, Compress.keys_pruned, Compress.keys_pruned]

/-- **C09 (idempotence).** Re-compressing an already re-compressed graph changes nothing but node order and orientation:
    both calls return, every node of the second result is exactly one node of the first (each path has one entry), the
    node counts agree and so do the partitions of the k-mers into nodes. -/
theorem C09_idempotent {T : Table D} {K : Nat} {st : Bool} (wf : WF T K st) (hes2 : Filter.ExtSym2 T st)
    (reduce : D → D → D) (join0 : D → D → Bool) (hj0 : ∀ a b, join0 a b = join0 b a)
    (out : List (Node D × List Nat)) (ho : compressKmersC T st join0 reduce = some out) :
    ∃ g' paths g'' paths'', compressGraph st (⟨K, out.map (·.1), st⟩ : G D) (fun _ _ => true) reduce [] = some (g', paths) ∧
      compressGraph st g' (fun _ _ => true) reduce [] = some (g'', paths'') ∧
      (∀ p ∈ paths'', ∃ X, ids p = [X]) ∧ g''.nodes.length = g'.nodes.length ∧ SameParts K st g''.nodes g'.nodes := by
  obtain ⟨port, members, pg, _⟩ := Compress.pgraph_of_compress reduce wf hes2.toExtSym hj0 out ho
  exact Compress.pgraph_recompress_idem pg wf hes2 reduce

/-- **C20 (GFA completeness after re-compression).** In the export of the re-compressed graph every adjacency between
    nodes of more than one k-mer is written. -/
theorem C20_gfa_complete_after_recompress {T : Table D} {K : Nat} {st : Bool} (wf : WF T K st) (hes2 : Filter.ExtSym2 T st)
    (reduce : D → D → D) (join0 : D → D → Bool) (hj0 : ∀ a b, join0 a b = join0 b a)
    (out : List (Node D × List Nat)) (ho : compressKmersC T st join0 reduce = some out) :
    ∃ g' paths, compressGraph st (⟨K, out.map (·.1), st⟩ : G D) (fun _ _ => true) reduce [] = some (g', paths) ∧
      ∀ (all : List Export.GfaLink), Export.allLinks g' = some all →
        ∀ (u : Nat) (d : Walk.Dir) (v : Nat) (s : Walk.Dir) (f : Bool) (es : List Graph.Edge),
          Graph.findEdges g' u d = some es → (v, s, f) ∈ es →
          (∀ nu, g'.nodes[u]? = some nu → nu.seq.length ≠ g'.K) → ¬ Graph.PalNode g' v → Export.Listed all u d v s := by
  obtain ⟨g', paths, hcg, hg, _, _⟩ := C09_result_wellformed wf hes2 reduce join0 hj0 out ho
  exact ⟨g', paths, hcg, fun all h u d v s f es he hm hnu hnv =>
    Export.gfa_links_complete_ginv g' hg all h u d v s f es he hm hnu hnv⟩

end CompressGraph
