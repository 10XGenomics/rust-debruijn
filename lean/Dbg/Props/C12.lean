import Dbg.Props.C11
import Dbg.Props.C14
import Dbg.Props.C15
import Dbg.Props.C17
import Dbg.Lemmas.Nibble
/-! # C12 — Reverse complement is coherent across all sequence types

The packed k-mer instance comes from C10/C11, the extension sets from the bit-level lemmas of `Lemmas/Nibble`, the
instances for DnaString, Lmer and slices from their refinement theorems (C14, C17, C15). -/

namespace Kmer

/-- C12 (k-mers): rc is an involution on storage words, for every shipped configuration -/
theorem C12_kmer_rc_involution (c : Cfg) (hc : c.WF) (hw : c.w ∈ [8, 16, 32, 64, 128]) (s : St c) (hs : Inv c s) :
    rc c (rc c s) = s := by
  apply toSeq_inj hc _ _ (inv_rc hc hw _) hs
  rw [toSeq_rc hc hw, toSeq_rc hc hw, KSpec.rc_rc _ (toSeq_lt4 hc s)]

/-- C12 (canonical form): `min_rc` is the lexicographically smaller of the string and its reverse complement -/
theorem C12_minRc_spec (c : Cfg) (hc : c.WF) (hw : c.w ∈ [8, 16, 32, 64, 128]) (s : St c) (hs : Inv c s) :
    toSeq c (minRc c s) = KSpec.minRc (toSeq c s) := (step_ok c hc hw s hs .minRc trivial).2

/-- C12: the canonical form is the same for a k-mer and its reverse complement -/
theorem C12_minRc_rc (c : Cfg) (hc : c.WF) (hw : c.w ∈ [8, 16, 32, 64, 128]) (s : St c) (hs : Inv c s) :
    minRc c (rc c s) = minRc c s := by
  have hr := C12_kmer_rc_involution c hc hw s hs
  unfold minRc lt
  rw [hr]
  by_cases h1 : s.toNat < (rc c s).toNat
  · have : ¬ (rc c s).toNat < s.toNat := by omega
    simp [h1, this]
  · by_cases h2 : (rc c s).toNat < s.toNat
    · simp [h1, h2]
    · have : s.toNat = (rc c s).toNat := by omega
      have : s = rc c s := BitVec.eq_of_toNat_eq this
      simp [← this]

/-- C12: `min_rc_flip` returns the canonical form and flags a flip unless `x < rc x` -/
theorem C12_minRcFlip (c : Cfg) (s : St c) :
    (minRcFlip c s).1 = minRc c s ∧ (minRcFlip c s).2 = !(lt c s (rc c s)) := by
  unfold minRcFlip minRc; by_cases h : lt c s (rc c s) = true <;> simp [h]

/-- C12: `is_palindrome` ⇔ the string equals its reverse complement (for odd K never) -/
theorem C12_isPalindrome (c : Cfg) (hc : c.WF) (hw : c.w ∈ [8, 16, 32, 64, 128]) (s : St c) (hs : Inv c s) (hev : c.K % 2 = 0) :
    isPalindrome c s = true ↔ toSeq c s = KSpec.rc (toSeq c s) := by
  unfold isPalindrome
  simp only [hev, beq_self_eq_true, Bool.true_and, beq_iff_eq]
  rw [← toSeq_rc hc hw s]
  exact ⟨fun h => by rw [← h], fun h => toSeq_inj hc _ _ hs (inv_rc hc hw s) h⟩

end Kmer

namespace Compress

/-- C12 (extension sets): for all 256 values, rc swaps the sides and complements the bases, and is an involution;
    complement and reverse are the two halves -/
theorem C12_exts_rc : ∀ v : Fin 256, ∀ b : Fin 4,
    let e : Exts := ⟨v.val⟩
    e.rc.rc = e ∧ e.rc.val < 256 ∧
    e.rc.hasExt .L b.val = e.hasExt .R (3 - b.val) ∧ e.rc.hasExt .R b.val = e.hasExt .L (3 - b.val) ∧
    e.complement.hasExt .L b.val = e.hasExt .L (3 - b.val) ∧ e.complement.hasExt .R b.val = e.hasExt .R (3 - b.val) ∧
    e.reverse.hasExt .L b.val = e.hasExt .R b.val ∧ e.reverse.hasExt .R b.val = e.hasExt .L b.val := by
  intro v b
  have he : (⟨v.val⟩ : Exts).val < 256 := v.isLt
  exact ⟨Exts.rc_rc _ he, Exts.rc_lt _, Exts.rc_hasExt _ he .L b, Exts.rc_hasExt _ he .R b,
    Exts.complement_hasExt _ he .L b, Exts.complement_hasExt _ he .R b, Exts.reverse_hasExt _ he .L b, Exts.reverse_hasExt _ he .R b⟩

end Compress

namespace C12
open Kmer (Cfg St)

theorem rc_forms (l : List Nat) : l.reverse.map (3 - ·) = KSpec.rc l := by
  unfold KSpec.rc; rw [List.map_reverse]; rfl

/-- **C12 (DnaString).** `rc` is the reversed, complemented base vector; `rc ∘ rc` is the identity on values. -/
theorem C12_dnaString (d : DnaStr.T) (h : DnaStr.Inv d) :
    ∃ r, DnaStr.rc d = some r ∧ DnaStr.Inv r ∧ DnaStr.toSeq r = KSpec.rc (DnaStr.toSeq d) ∧ DnaStr.rc r = some d := by
  obtain ⟨r, e, i, s⟩ := DnaStr.rc_spec d h
  rw [rc_forms] at s
  obtain ⟨rr, e2, i2, s2⟩ := DnaStr.rc_spec r i
  rw [rc_forms, s, KSpec.rc_rc _ (DnaStr.toSeq_lt4 d)] at s2
  exact ⟨r, e, i, s, by rw [e2, DnaStr.repr_inj rr d i2 h s2]⟩

/-- **C12 (Lmer).** for every word count -/
theorem C12_lmer (l : Lmer.T) (h : Lmer.Inv l) :
    ∃ r, Lmer.rc l = some r ∧ Lmer.Inv r ∧ r.n = l.n ∧ Lmer.toSeq r = KSpec.rc (Lmer.toSeq l) ∧ Lmer.rc r = some l := by
  obtain ⟨r, e, i, n, s⟩ := Lmer.rc_spec l h
  obtain ⟨rr, e2, i2, n2, s2⟩ := Lmer.rc_spec r i
  rw [s, KSpec.rc_rc _ (Lmer.toSeq_lt4 l)] at s2
  exact ⟨r, e, i, n, s, by rw [e2, Lmer.repr_inj rr l i2 h (n2.trans n) s2]⟩

/-- **C12 (slices).** in either orientation, at every offset -/
theorem C12_slice (d : DnaStr.T) (h : DnaStr.Inv d) (s : DnaStr.Slice) (hv : DnaStr.Slice.Valid d s) :
    DnaStr.Slice.Valid d s.rc ∧ DnaStr.Slice.seq d s.rc = KSpec.rc (DnaStr.Slice.seq d s) ∧ s.rc.rc = s :=
  ⟨(DnaStr.Slice.rc_spec d h s hv).1, (DnaStr.Slice.rc_spec d h s hv).2, DnaStr.Slice.rc_rc s⟩

/-- **C12 (k-mers of the reverse complement).** For any container of a string and any container of its
    reverse complement (of any of the types above, any k-mer configuration): the `i`-th k-mer of the
    latter is the reverse complement of the `(n-K-i)`-th k-mer of the former. -/
theorem C12_kmers_of_rc (c : Cfg) (hc : c.WF) (hw : c.w ∈ [8, 16, 32, 64, 128]) (v v' : KIter.Cont c) (seq : List Nat)
    (hf : KIter.Faithful v seq) (hf' : KIter.Faithful v' (KSpec.rc seq)) (i : Nat) (hi : i + c.K ≤ seq.length) :
    ∃ k, v.getKmer (seq.length - c.K - i) = some k ∧ v'.getKmer i = some (Kmer.rc c k) := by
  obtain ⟨k, e, ki, kt⟩ := hf.kmer (seq.length - c.K - i) (by omega)
  obtain ⟨k', e', ki', kt'⟩ := hf'.kmer i (by rw [KSpec.rc_length]; exact hi)
  refine ⟨k, e, ?_⟩
  rw [e']
  congr 1
  apply Kmer.toSeq_inj hc _ _ ki' (Kmer.inv_rc hc hw k)
  rw [Kmer.toSeq_rc hc hw k, kt, kt']
  unfold KIter.win
  have := KSpec.rc_window seq c.K (seq.length - c.K - i) (by omega)
  rw [this]
  congr 2; omega

end C12
