import Dbg.Props.C07
import Dbg.Lemmas.BucketPure
/-! # C08 — Shard assignment is a pure, strand-symmetric function of the k-mer

Theorems about the model `Msp.mspSequence` of `msp_sequence` (msp.rs 279-324). -/
namespace Msp
open Compress (Seq Base rc rank)

/-- `Exts::from_slice_bounds` computes exactly the flank byte -/
theorem flank_bits (l r : Option Base) : ((optBit r) <<< 4) ||| optBit l = optPow 0 l + optPow 4 r := by
  cases l with
  | none => cases r with
    | none => rfl
    | some r => revert r; decide
  | some l => cases r with
    | none => revert l; decide
    | some r => revert l r; decide

theorem extsFromSliceBounds_eq (seq : Array Base) (start len : Nat) :
    extsFromSliceBounds seq start len = flankByte seq start len := by
  unfold extsFromSliceBounds flankByte
  have hr : (if start + len < seq.size then optBit seq[start + len]? else 0) = optBit seq[start + len]? := by
    by_cases h : start + len < seq.size
    · simp [h]
    · simp [h, optBit]
  simp only [hr]
  by_cases h0 : start = 0
  · subst h0
    have := flank_bits none seq[0 + len]?
    simpa [optBit, optPow] using this
  · have hpos : start > 0 := by omega
    simp only [hpos, h0, if_true, if_false]
    exact flank_bits _ _

def pieceOf (seq : Array Base) (iv : Iv) : Piece :=
  ⟨rank (minRc iv.mini) % 2 ^ 32, extsFromSliceBounds seq iv.start iv.len, window seq iv.len iv.start⟩

theorem pieceOf_spec (seq : Array Base) (iv : Iv) (hend : iv.start + iv.len ≤ seq.size) :
    (pieceOf seq iv).seq.length = iv.len ∧ (pieceOf seq iv).seq = window seq (pieceOf seq iv).seq.length iv.start ∧
      (pieceOf seq iv).exts = flankByte seq iv.start (pieceOf seq iv).seq.length := by
  have e : (pieceOf seq iv).seq.length = iv.len := window_length seq _ _ hend
  refine ⟨e, ?_, ?_⟩
  · rw [e]; rfl
  · rw [e]; exact extsFromSliceBounds_eq seq iv.start iv.len

theorem pieces_of_chain (seq : Array Base) (sc : Nat → Nat) (k p : Nat) (hk1 : 1 ≤ k) (ivs : List Iv) :
    ChainValid sc k p seq.size ivs → (∀ iv ∈ ivs, k ≤ iv.len) →
      ∀ a, ivs.head?.map (·.start) = some a → PiecesFrom seq k a (ivs.map (pieceOf seq)) := by
  fun_induction ChainValid sc k p seq.size ivs with
  | case1 => exact fun h => h.elim
  | case2 iv =>
    intro (hc : iv.start + iv.len = seq.size) hl a ha
    cases ha
    obtain ⟨e, hw, hx⟩ := pieceOf_spec seq iv (Nat.le_of_eq hc)
    have hk := hl iv (List.mem_singleton_self iv)
    simp only [List.map, PiecesFrom]
    rw [← e] at hc hk
    exact ⟨hk, hc, hw, hx⟩
  | case3 iv iv' rest ih =>
    intro hc hl a ha
    cases ha
    have hend := chain_end_le sc k p seq.size (iv :: iv' :: rest) hc hl iv (List.mem_cons_self ..)
    obtain ⟨_, c2, _, c4⟩ := hc
    obtain ⟨e, hw, hx⟩ := pieceOf_spec seq iv hend
    have hk := hl iv (List.mem_cons_self ..)
    have ihh := ih c4 (fun x hx => hl x (List.mem_cons_of_mem _ hx)) iv'.start rfl
    rw [show iv'.start = iv.start + iv.len - (k - 1) by rw [← c2, Nat.add_sub_assoc hk1, Nat.add_sub_cancel]] at ihh
    simp only [List.map, PiecesFrom] at ihh ⊢
    rw [← e] at hend hk ihh
    exact ⟨hk, hend, hw, hx, ihh⟩

theorem mspSequence_eq (k p : Nat) (seq : Array Base) (perm : Option (Array Nat)) (rcMode : Bool) (maxLen : Nat)
    (h₃ : k ≤ seq.size) (h₆ : 2 * k - p ≤ maxLen) (h₇ : 4 ^ p ≤ (perm.getD (Array.range (4 ^ p))).size) :
    mspSequence k p seq perm rcMode maxLen =
      (scan seq (permScore (perm.getD (Array.range (4 ^ p))) rcMode) k p).map (·.map (pieceOf seq)) := by
  unfold mspSequence
  rw [if_neg (not_not_intro h₆), if_neg (Nat.not_lt.mpr h₃)]
  simp only
  rw [if_neg (Nat.not_lt.mpr h₇)]
  cases scan seq (permScore (perm.getD (Array.range (4 ^ p))) rcMode) k p <;> rfl

/-- **C08, pieces.** Every piece is the exact substring of the read at consecutive offsets overlapping by
    k-1, the last one ends at the end of the read, and its boundary extensions are exactly the read's
    flanking bases (none at a read end). Reads shorter than k give no piece. -/
theorem C08_pieces_exact (k p : Nat) (seq : Array Base) (perm : Option (Array Nat)) (rcMode : Bool) (maxLen : Nat)
    (h₁ : 1 ≤ p) (h₂ : p ≤ k) (h₄ : seq.size < 2 ^ 32) (h₅ : 2 * k - p ≤ 65535) (h₆ : 2 * k - p ≤ maxLen)
    (h₇ : 4 ^ p ≤ (perm.getD (Array.range (4 ^ p))).size)
    (h₈ : ∀ i : Nat, i < (perm.getD (Array.range (4 ^ p))).size → (perm.getD (Array.range (4 ^ p)))[i]?.getD 0 < 2 ^ 64) :
    ∃ pieces, mspSequence k p seq perm rcMode maxLen = some pieces ∧
      (if seq.size < k then pieces = [] else PiecesFrom seq k 0 pieces) := by
  by_cases hs : seq.size < k
  · refine ⟨[], ?_, by rw [if_pos hs]⟩
    unfold mspSequence
    rw [if_neg (not_not_intro h₆), if_pos hs]
  · have h₃ := Nat.le_of_not_lt hs
    obtain ⟨ivs, he, hh⟩ := C07_scan_valid seq (permScore (perm.getD (Array.range (4 ^ p))) rcMode) k p h₁ h₂ h₃ h₄ h₅
      (permScore_lt _ _ h₈)
    refine ⟨_, by rw [mspSequence_eq k p seq perm rcMode maxLen h₃ h₆ h₇, he]; rfl, ?_⟩
    rw [if_neg hs]
    exact pieces_of_chain seq _ k p (Nat.le_trans h₁ h₂) ivs hh.2.2 (fun iv hiv => (hh.2.1 iv hiv).1) 0 hh.1

theorem kmers_of_pieces (seq : Array Base) (k : Nat) (hk : 1 ≤ k) (pcs : List Piece) (a : Nat) (h : PiecesFrom seq k a pcs) :
    ∃ c, pcs.flatMap (fun pc => kmersOfSeq k pc.seq) = (List.range' a (c + 1)).map (window seq k) ∧ a + c + k = seq.size :=
  pieces_tile seq k hk (window seq k) (fun pc => kmersOfSeq k pc.seq)
    (fun pc a hkl hle hw _ => by rw [hw, window_length seq _ a hle]; exact kmersOfSeq_window seq k _ a hkl hle) a pcs h

/-- **C08, coverage.** The k-mers of the pieces, in order, are the k-mers of the read, each once. -/
theorem C08_pieces_cover (k p : Nat) (seq : Array Base) (perm : Option (Array Nat)) (rcMode : Bool) (maxLen : Nat)
    (h₁ : 1 ≤ p) (h₂ : p ≤ k) (h₃ : k ≤ seq.size) (h₄ : seq.size < 2 ^ 32) (h₅ : 2 * k - p ≤ 65535) (h₆ : 2 * k - p ≤ maxLen)
    (h₇ : 4 ^ p ≤ (perm.getD (Array.range (4 ^ p))).size)
    (h₈ : ∀ i : Nat, i < (perm.getD (Array.range (4 ^ p))).size → (perm.getD (Array.range (4 ^ p)))[i]?.getD 0 < 2 ^ 64) :
    ∃ pieces, mspSequence k p seq perm rcMode maxLen = some pieces ∧
      pieces.flatMap (fun pc => kmersOfSeq k pc.seq) = (List.range (seq.size - k + 1)).map (window seq k) := by
  obtain ⟨pieces, he, hp⟩ := C08_pieces_exact k p seq perm rcMode maxLen h₁ h₂ h₄ h₅ h₆ h₇ h₈
  refine ⟨pieces, he, ?_⟩
  rw [if_neg (Nat.not_lt.mpr h₃)] at hp
  obtain ⟨c, hc, hn⟩ := kmers_of_pieces seq k (Nat.le_trans h₁ h₂) pieces 0 hp
  rw [hc, List.range_eq_range', ← hn, Nat.add_sub_cancel, Nat.zero_add]

/-- **C08 (bucket purity).** With a permutation-based score (injective permutation of the 4^p p-mers), every k-mer of
    every piece lies in the bucket `bucketOf`, which is a function of the k-mer alone: every occurrence of the same k-mer,
    in any read and at any position, is emitted in a piece carrying the same bucket id. -/
theorem C08_bucket_pure (k p : Nat) (seq : Array Base) (perm : Array Nat) (rcMode : Bool) (maxLen : Nat) (pieces : List Piece)
    (h₁ : 1 ≤ p) (h₂ : p ≤ k) (h₃ : k ≤ seq.size) (h₄ : seq.size < 2 ^ 32) (h₅ : 2 * k - p ≤ 65535)
    (hsz : perm.size = 4 ^ p) (hinj : PermInj perm) (h₈ : ∀ i : Nat, i < perm.size → perm[i]?.getD 0 < 2 ^ 64)
    (h : mspSequence k p seq (some perm) rcMode maxLen = some pieces) :
    BucketsPure perm rcMode k p pieces := by
  by_cases h₆ : 2 * k - p ≤ maxLen
  case neg => unfold mspSequence at h; rw [if_pos h₆] at h; cases h
  obtain ⟨ivs, he, hh⟩ := C07_scan_valid seq (permScore perm rcMode) k p h₁ h₂ h₃ h₄ h₅ (permScore_lt _ _ h₈)
  rw [mspSequence_eq k p seq (some perm) rcMode maxLen h₃ h₆ (Nat.le_of_eq hsz.symm), Option.getD_some, he] at h
  cases h
  intro pc hpc x hx
  obtain ⟨iv, hiv, rfl⟩ := List.mem_map.mp hpc
  have hvalid := hh.2.1 iv hiv
  have hend := chain_end_le _ k p seq.size ivs hh.2.2 (fun iv hiv => (hh.2.1 iv hiv).1) iv hiv
  change x ∈ kmersOfSeq k (window seq iv.len iv.start) at hx
  rw [kmersOfSeq_window seq k iv.len iv.start hvalid.1 hend] at hx
  obtain ⟨a, ha, rfl⟩ := List.mem_map.mp hx
  obtain ⟨ha1, ha2⟩ := List.mem_range'_1.mp ha
  have := hvalid.1
  exact bucket_of_interval perm rcMode k p seq iv h₂ hsz hinj hvalid hend a ha1 (by omega)

/-- **C08 (strand symmetry).** In reverse-complement mode the bucket function does not distinguish a k-mer from its
    reverse complement, so both orientations of a k-mer are sent to the same shard. -/
theorem C08_bucket_strand_symmetric (perm : Array Nat) (p : Nat) (hsz : perm.size = 4 ^ p) (hinj : PermInj perm)
    (x : Seq) (hp : p ≤ x.length) : bucketOf perm true p (rc x) = bucketOf perm true p x :=
  bucketOf_rc perm p hsz hinj x hp

example : ∃ pieces, mspSequence 5 2 #[0,1,2,3,0,0,1,3,2,2,1] none true 28 = some pieces ∧
    holdsC08 (Array.range 16) true 5 2 #[0,1,2,3,0,0,1,3,2,2,1] pieces = true := by decide +kernel

end Msp
