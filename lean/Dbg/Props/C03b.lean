import Dbg.Props.C06c
/-! # C03 (continued) — the adjacencies of the finished graph are exactly the observed (K+1)-mers, without exception

`C03_observed_adjacency_recorded` (Props/C03) leaves out terminal k-mers equal to their own reverse complement, whose
flanks the table may record on either side.  On the level of *adjacencies* — unordered pairs of canonical k-mers, which is
how the property counts the two sides of such a node as one — no exception is needed. -/
namespace Pipeline
open Compress (Seq Exts canonSt extend condFlip AdjK AdjKS AdjGS)
open Filter (refTable removeCensoredExts Occ NoBoundary)

/-- two retained k-mers spelled one after the other by some read (as read or, unstranded, on the other strand) -/
def ObservedAdj (K : Nat) (reads : List (Seq × Exts × Nat)) (st : Bool) (keys : List Seq) (k1 k2 : Seq) : Prop :=
  k1 ∈ keys ∧ k2 ∈ keys ∧ ∃ u d b, Occ K reads st u d b ∧ (canonSt st u).1 = k1 ∧ (canonSt st (extend u b d)).1 = k2

theorem adjK_occ_stranded (K : Nat) (hK : 1 ≤ K) (reads : List (Seq × Exts × Nat)) (hb : NoBoundary reads) (sm : Filter.Summarizer)
    (k1 k2 : Seq) :
    AdjK (removeCensoredExts true (refTable K reads sm true)) true k1 k2 ↔
      ObservedAdj K reads true ((refTable K reads sm true).map (·.key)) k1 k2 := by
  rw [adjK_pruned]
  constructor
  · rintro ⟨e0, he0, d, b, hk, h1, ht, hk2⟩
    exact ⟨by rw [← hk]; exact List.mem_map_of_mem he0, hk2, e0.key, d, b,
      Filter.table_occ K hK reads hb sm true e0 he0 d b h1, hk, ht⟩
  · rintro ⟨hk1, hk2, u, d, b, hocc, hc1, hc2⟩
    obtain ⟨e1, he1, hke1⟩ := List.mem_map.mp hk1
    have hu : u = e1.key := by rw [hke1, ← hc1]; rfl
    subst hu
    have hh := Filter.occ_table K hK reads hb sm true e1.key d b hocc e1 he1 false rfl rfl
    simp only [condFlip, Bool.false_eq_true, if_false] at hh
    exact ⟨e1, he1, d, b, hke1, hh, hc2, hk2⟩

theorem adjK_observed (K : Nat) (hK : 1 ≤ K) (reads : List (Seq × Exts × Nat)) (hb : NoBoundary reads) (sm : Filter.Summarizer)
    (st : Bool) (k1 k2 : Seq) :
    AdjK (removeCensoredExts st (refTable K reads sm st)) st k1 k2 ↔
      ObservedAdj K reads st ((refTable K reads sm st).map (·.key)) k1 k2 := by
  cases st with
  | true => exact adjK_occ_stranded K hK reads hb sm k1 k2
  | false => exact adjK_occ K hK reads hb sm k1 k2

/-- **C03 (adjacency set = observed (K+1)-mers, every case).** For every read set, K ≥ 4, strandedness, threshold and hash
    orders: the one-pass pipeline returns a graph in which two k-mers are adjacent — consecutive inside a node or joined by an
    edge `find_link` resolves, in either order — iff both are retained and some read spells one directly after the other (on either
    strand when unstranded).  K-mers equal to their own reverse complement are included. -/
theorem C03_adjacency_exact (K : Nat) (hK : 4 ≤ K) (reads : List (Seq × Exts × Nat)) (hb : NoBoundary reads)
    (st : Bool) (thr : Nat) (dsigma : List Nat)
    (hds : dsigma.Perm (List.range (refTable K reads (.count thr) st).length)) :
    ∃ gd, direct K reads st thr dsigma = some gd ∧
      ∀ k1 k2, AdjGS K st gd.nodes k1 k2 ↔
        (ObservedAdj K reads st ((refTable K reads (.count thr) st).map (·.key)) k1 k2 ∨
         ObservedAdj K reads st ((refTable K reads (.count thr) st).map (·.key)) k2 k1) := by
  obtain ⟨gd, h1, a1⟩ := direct_pipeline_adj K hK reads hb st thr dsigma hds
  refine ⟨gd, h1, fun k1 k2 => ?_⟩
  rw [a1]
  unfold AdjKS
  rw [adjK_observed K (by omega) reads hb, adjK_observed K (by omega) reads hb]

end Pipeline
