import Dbg.Lemmas.IsCompressed2
import Dbg.Props.C02
import Dbg.Props.C08
import Dbg.Lemmas.ShardPipeline
import Dbg.Lemmas.Payload
import Dbg.Lemmas.Adjacency
/-! # C04 — Sharded assembly equals unsharded assembly

For every read set and every configuration inside `msp_sequence`'s contract, neither pipeline panics and the sharded
pipeline produces the same partition of the retained k-mers into nodes as the one-pass pipeline (`C04_sharded_eq_direct`).
Each shard's `filter_kmers` table is, row for row, the part of the one-pass table in its bucket (`C04_shard_tables`), so
the shard tables, concatenated, are sandwiched between the pruned and the full one-pass table (`Compress.shard_sandwich`);
then `Compress.sharded_eq_direct_abstract` applies: both pipelines yield the classes of the key-level good-link relation
of the pruned one-pass table.  Payload totals, adjacencies and the `is_compressed` check follow the same way
(`C04_payloads_agree`, `C04_adjacencies_agree`, `C04_final_is_compressed`). -/
namespace Pipeline
open Compress (Seq Exts Node)

/-- theorems of other properties on which the chain rests (pieces tile their read, a shard's nodes are components, censored
    nodes stay out), named here so that the C04 check audits them among its obligations (`props.py`) -/
def C04_link_pieces := @Msp.C08_pieces_cover

def C04_link_shard {D : Type} := @Compress.C02_components D

def C04_link_recompress {D : Type} := @CompressGraph.C09_censored_excluded D

open Filter (observations refTable refAllKmers pieceRead plainRead TilesRead AllTile Summarizer)
open Msp (Piece bucketOf PermInj mspSequence)

theorem allTile_of_mapM (K : Nat) (f : Seq → Option (List Piece)) :
    ∀ (reads : List Seq) (pss : List (List Piece)), reads.mapM f = some pss →
      (∀ r ∈ reads, ∀ ps, f r = some ps → TilesRead K r.toArray ps) → AllTile K reads pss := by
  intro reads
  induction reads with
  | nil => intro pss h _; cases h; trivial
  | cons r rs ih =>
    intro pss h ht
    obtain ⟨b, bs, h1, h2, rfl⟩ := List.mapM_cons_eq_some h
    exact ⟨ht r (List.mem_cons_self ..) b h1, ih bs h2 (fun r' hr' => ht r' (List.mem_cons_of_mem _ hr'))⟩

theorem eraseDups_nodup : ∀ (n : Nat) (l : List Nat), l.length ≤ n → l.eraseDups.Nodup := by
  intro n
  induction n with
  | zero => intro l h; have : l = [] := List.length_eq_zero_iff.mp (by omega); subst this; simp
  | succ n ih =>
    intro l h
    cases l with
    | nil => simp
    | cons a as =>
      rw [List.eraseDups_cons, List.nodup_cons]
      refine ⟨?_, ih _ (by have := List.length_filter_le (fun b => !b == a) as; simp at h; omega)⟩
      rw [List.mem_eraseDups, List.mem_filter]
      rintro ⟨_, h2⟩
      simp at h2

/-- the insertion loop of `shards` over a duplicate-free list: strictly ascending, same elements -/
theorem sortBuckets_spec : ∀ (bs acc : List Nat), acc.Pairwise (· < ·) → bs.Nodup → (∀ b ∈ bs, b ∉ acc) →
    (bs.foldl (fun acc b => (acc.takeWhile (· < b)) ++ [b] ++ (acc.dropWhile (· < b))) acc).Pairwise (· < ·) ∧
    ∀ y, y ∈ bs.foldl (fun acc b => (acc.takeWhile (· < b)) ++ [b] ++ (acc.dropWhile (· < b))) acc ↔ y ∈ acc ∨ y ∈ bs := by
  intro bs
  induction bs with
  | nil => intro acc h _ _; exact ⟨h, fun y => by simp⟩
  | cons b bs ih =>
    intro acc h hn hd
    rw [List.nodup_cons] at hn
    have hb : b ∉ acc := hd b (List.mem_cons_self ..)
    have hins := Filter.insL_spec acc b h
    have e : Filter.insL acc b = (acc.takeWhile (· < b)) ++ [b] ++ (acc.dropWhile (· < b)) := by
      unfold Filter.insL; rw [if_neg (by simpa using hb)]
    rw [e] at hins
    rw [List.foldl_cons]
    obtain ⟨i1, i2⟩ := ih _ hins.1 hn.2 (fun b' hb' hc => by
      rcases (hins.2 b').mp hc with rfl | hc'
      · exact hn.1 hb'
      · exact hd b' (List.mem_cons_of_mem _ hb') hc')
    refine ⟨i1, fun y => ?_⟩
    rw [i2 y, hins.2 y, List.mem_cons, or_comm (a := y = b), or_assoc]

/-- the conditions under which `msp_sequence` is within its contract for every read (the C08 hypotheses) -/
structure ShardCfg (K P : Nat) (reads : List Seq) (perm : Option (Array Nat)) : Prop where
  p1 : 1 ≤ P
  pk : P ≤ K
  k4 : 4 ≤ K
  span : 2 * K - P ≤ 65535
  short : ∀ r ∈ reads, r.length < 2 ^ 32
  psize : (perm.getD (Array.range (4 ^ P))).size = 4 ^ P
  pinj : PermInj (perm.getD (Array.range (4 ^ P)))
  pval : ∀ i : Nat, i < (perm.getD (Array.range (4 ^ P))).size → (perm.getD (Array.range (4 ^ P)))[i]?.getD 0 < 2 ^ 64

theorem mspSequence_getD (K P : Nat) (seq : Array Compress.Base) (perm : Option (Array Nat)) (rcMode : Bool) (m : Nat) :
    mspSequence K P seq perm rcMode m = mspSequence K P seq (some (perm.getD (Array.range (4 ^ P)))) rcMode m := by
  cases perm <;> rfl

theorem mem_observations_map {K : Nat} {st : Bool} (all : List Piece) (o : Seq × Exts × Nat)
    (h : o ∈ observations K (all.map pieceRead) st) : ∃ pc ∈ all, o ∈ observations K [pieceRead pc] st := by
  unfold observations at h ⊢
  rw [List.mem_flatMap] at h
  obtain ⟨r, hr, ho⟩ := h
  rw [List.mem_map] at hr
  obtain ⟨pc, hpc, rfl⟩ := hr
  exact ⟨pc, hpc, by rw [List.flatMap_cons, List.flatMap_nil, List.append_nil]; exact ho⟩

/-- `msp_sequence` on one read of the set: it returns, its pieces tile the read, and every k-mer of a piece falls into the
    piece's bucket -/
theorem msp_read {K P : Nat} {reads : List Seq} {perm : Option (Array Nat)} (cfg : ShardCfg K P reads perm) (st : Bool)
    (r : Seq) (hr : r ∈ reads) :
    ∃ ps, mspSequence K P r.toArray perm (!st) (2 ^ 64 - 1) = some ps ∧ TilesRead K r.toArray ps ∧
      Msp.BucketsPure (perm.getD (Array.range (4 ^ P))) (!st) K P ps := by
  have hsz : r.toArray.size < 2 ^ 32 := by simpa using cfg.short r hr
  obtain ⟨ps, h1, h2⟩ := Msp.C08_pieces_exact K P r.toArray perm (!st) (2 ^ 64 - 1) cfg.p1 cfg.pk hsz cfg.span
    (by have := cfg.span; omega) (by rw [cfg.psize]; exact Nat.le_refl _) cfg.pval
  refine ⟨ps, h1, h2, ?_⟩
  by_cases hs : r.toArray.size < K
  · rw [if_pos hs] at h2; subst h2; exact fun _ hpc => nomatch hpc
  · rw [mspSequence_getD] at h1
    exact Msp.C08_bucket_pure K P r.toArray _ (!st) (2 ^ 64 - 1) ps cfg.p1 cfg.pk (by omega) hsz cfg.span cfg.psize cfg.pinj
      cfg.pval h1

/-- `msp_sequence` over the whole read set: it returns for every read, the pieces tile the reads, and every k-mer observed
    in a piece falls into the piece's bucket -/
theorem msp_reads {K P : Nat} {reads : List Seq} {perm : Option (Array Nat)} (cfg : ShardCfg K P reads perm) (st : Bool) :
    ∃ pss, reads.mapM (fun r : Seq => mspSequence K P r.toArray perm (!st) (2 ^ 64 - 1)) = some pss ∧ AllTile K reads pss ∧
      ∀ pc ∈ pss.flatten, ∀ o ∈ observations K [pieceRead pc] st,
        bucketOf (perm.getD (Array.range (4 ^ P))) (!st) P o.1 = pc.bucket := by
  obtain ⟨pss, hpss⟩ := List.exists_mapM_eq_some (fun r : Seq => mspSequence K P r.toArray perm (!st) (2 ^ 64 - 1)) reads
    (fun r hr => by obtain ⟨ps, h1, _⟩ := msp_read cfg st r hr; exact ⟨ps, h1⟩)
  refine ⟨pss, hpss, allTile_of_mapM K _ reads pss hpss fun r hr ps hps => ?_, fun pc hpc => ?_⟩
  · obtain ⟨ps', h1, h2, _⟩ := msp_read cfg st r hr
    cases h1.symm.trans hps
    exact h2
  · obtain ⟨ps, hps, hpc⟩ := List.mem_flatten.mp hpc
    obtain ⟨r, hr, hf⟩ := List.mem_of_mapM_eq_some hpss hps
    obtain ⟨ps', h1, _, h3⟩ := msp_read cfg st r hr
    cases h1.symm.trans hf
    exact Filter.piece_obs_bucket K P cfg.pk _ cfg.psize cfg.pinj st pc (h3 pc hpc)

/-- **C04, table level.** Inside `msp_sequence`'s contract the shards are produced (no panic), their bucket numbers are
    strictly ascending (so the shards are key-disjoint), each shard's reference table and list of all k-mers are the parts
    of the one-pass ones whose keys fall into the shard's bucket (same rows, same order), and the bucket of every one-pass
    k-mer is a shard. -/
theorem C04_shard_tables (K P : Nat) (reads : List Seq) (perm : Option (Array Nat)) (st : Bool) (sm : Summarizer)
    (cfg : ShardCfg K P reads perm) :
    ∃ shs, shards K P reads perm (!st) = some shs ∧
      (shs.map (·.1)).Pairwise (· < ·) ∧
      (∀ sh ∈ shs,
        refTable K sh.2 sm st = (refTable K (reads.map plainRead) sm st).filter
          (fun e => bucketOf (perm.getD (Array.range (4 ^ P))) (!st) P e.key == sh.1) ∧
        refAllKmers K sh.2 st = (refAllKmers K (reads.map plainRead) st).filter
          (fun k => bucketOf (perm.getD (Array.range (4 ^ P))) (!st) P k == sh.1)) ∧
      (∀ k ∈ refAllKmers K (reads.map plainRead) st,
        ∃ sh ∈ shs, sh.1 = bucketOf (perm.getD (Array.range (4 ^ P))) (!st) P k) := by
  have hK1 : 1 ≤ K := by have := cfg.k4; omega
  obtain ⟨pss, hpss, htile, hpure⟩ := msp_reads cfg st
  have hobs := Filter.reads_observations K hK1 st reads pss htile
  have hsorted := sortBuckets_spec ((pss.flatten.map (·.bucket)).eraseDups) [] List.Pairwise.nil
    (eraseDups_nodup _ _ (Nat.le_refl _)) (fun _ _ h => by cases h)
  refine ⟨_, by unfold shards; simp only; rw [hpss], ?_, ?_, ?_⟩
  · rw [List.map_map]
    show (List.map id _).Pairwise _
    rw [List.map_id]
    exact hsorted.1
  · intro sh hsh
    rw [List.mem_map] at hsh
    obtain ⟨b, _, rfl⟩ := hsh
    simp only
    apply Filter.table_restrict K _ _ sm st (fun k => bucketOf (perm.getD (Array.range (4 ^ P))) (!st) P k == b)
    rw [← hobs]
    exact Filter.shard_observations K st pss.flatten (·.bucket == b)
      (fun k => bucketOf (perm.getD (Array.range (4 ^ P))) (!st) P k == b) (fun pc hpc o ho => by
      show (bucketOf (perm.getD (Array.range (4 ^ P))) (!st) P o.1 == b) = (pc.bucket == b)
      rw [hpure pc hpc o ho])
  · intro k hk
    rw [Filter.refAllKmers_eq, (Filter.distinctKeys_spec _).2, ← hobs] at hk
    obtain ⟨o, ho, rfl⟩ := hk
    obtain ⟨pc, hpc, hopc⟩ := mem_observations_map _ o ho
    have hmem : pc.bucket ∈ (pss.flatten.map (·.bucket)).eraseDups := by
      rw [List.mem_eraseDups]; exact List.mem_map_of_mem hpc
    exact ⟨_, List.mem_map_of_mem ((hsorted.2 pc.bucket).mpr (Or.inr hmem)), (hpure pc hpc o hopc).symm⟩

/-- the same for the model of `filter_kmers` itself (any memory budget, hence any number of bucket passes, on either side) -/
theorem C04_shard_filter (K P : Nat) (reads : List Seq) (perm : Option (Array Nat)) (st : Bool) (sm : Summarizer)
    (cfg : ShardCfg K P reads perm) (ra : Bool) (mem mem' bpu sz : Nat) (hm : 1 ≤ mem) (hm' : 1 ≤ mem') (hb : 1 ≤ bpu) :
    ∃ shs full, shards K P reads perm (!st) = some shs ∧
      Filter.filterKmers K (reads.map plainRead) sm st ra mem' bpu sz = some full ∧
      ∀ sh ∈ shs, ∃ part, Filter.filterKmers K sh.2 sm st ra mem bpu sz = some part ∧
        part.table = full.table.filter (fun e => bucketOf (perm.getD (Array.range (4 ^ P))) (!st) P e.key == sh.1) ∧
        part.allKmers = full.allKmers.filter (fun k => bucketOf (perm.getD (Array.range (4 ^ P))) (!st) P k == sh.1) := by
  obtain ⟨shs, h1, _, h3, _⟩ := C04_shard_tables K P reads perm st sm cfg
  obtain ⟨full, f1, f2, f3⟩ := Filter.filterKmers_eq_ref K (reads.map plainRead) sm st ra mem' bpu sz cfg.k4 hm' hb
  refine ⟨shs, full, h1, f1, fun sh hsh => ?_⟩
  obtain ⟨part, p1, p2, p3⟩ := Filter.filterKmers_eq_ref K sh.2 sm st ra mem bpu sz cfg.k4 hm hb
  refine ⟨part, p1, ?_, ?_⟩
  · rw [p2, f2]; exact (h3 sh hsh).1
  · rw [p3, f3]
    cases ra with
    | true => simp only [if_true]; exact (h3 sh hsh).2
    | false => simp

theorem permInj_range (n : Nat) : PermInj (Array.range n) := by
  intro i j hi hj h
  simp only [Array.size_range] at hi hj
  rw [Array.getElem?_eq_getElem (by simpa using hi), Array.getElem?_eq_getElem (by simpa using hj)] at h
  simpa using h

/-- The hypotheses are satisfiable: the default permutation. -/
theorem shardCfg_default (K P : Nat) (reads : List Seq) (h1 : 1 ≤ P) (h2 : P ≤ K) (h3 : 4 ≤ K) (h4 : 2 * K - P ≤ 65535)
    (h5 : ∀ r ∈ reads, r.length < 2 ^ 32) (h6 : 4 ^ P ≤ 2 ^ 64) : ShardCfg K P reads none where
  p1 := h1
  pk := h2
  k4 := h3
  span := h4
  short := h5
  psize := by simp
  pinj := permInj_range _
  pval := by
    intro i hi
    simp only [Option.getD_none, Array.size_range] at hi ⊢
    rw [Array.getElem?_eq_getElem (by simpa using hi)]
    simp; omega

open Compress (SameParts AllBuilt AllPerm shardT0 Table)

theorem mapM_of_allBuilt {α D : Type} (st : Bool) (join : D → D → Bool) (reduce : D → D → D) (tbl : α → Table D)
    (body : α → Option (List (Node D))) :
    ∀ (l : List α) (outs : List (List (Node D × List Nat))),
      (∀ x ∈ l, body x = (Compress.compressKmersC (tbl x) st join reduce).map fun o => o.map (·.1)) →
      AllBuilt st join reduce (l.map tbl) outs → l.mapM body = some (outs.map fun o => o.map (·.1)) := by
  intro l
  induction l with
  | nil => intro outs _ h; match outs, h with
    | [], _ => rfl
  | cons x xs ih =>
    intro outs hbody h
    match outs, h with
    | o :: os, ⟨h1, h2⟩ =>
      rw [List.mapM_cons, hbody x (List.mem_cons_self ..), h1, ih os (fun y hy => hbody y (List.mem_cons_of_mem _ hy)) h2]
      rfl

theorem allPerm_of_sigmas {α D : Type} (T0 : α → Table D) :
    ∀ (xs : List α) (sigmas : List (List Nat)), sigmas.length = xs.length →
      (∀ (i : Nat) (x : α) (sg : List Nat), xs[i]? = some x → sigmas[i]? = some sg → sg.Perm (List.range (T0 x).length)) →
      AllPerm ((xs.zip sigmas).map fun p => p.2.filterMap fun i => (T0 p.1)[i]?) (xs.map T0) := by
  intro xs
  induction xs with
  | nil => intro sigmas _ _; simp [AllPerm]
  | cons x xs ih =>
    intro sigmas hl hp
    cases sigmas with
    | nil => simp at hl
    | cons sg sgs =>
      simp only [List.zip_cons_cons, List.map_cons]
      exact ⟨Compress.perm_of_sigma _ sg (hp 0 x sg rfl rfl),
        ih sgs (by simpa using hl) (fun i x' sg' h1 h2 => hp (i + 1) x' sg' (by simpa using h1) (by simpa using h2))⟩

theorem refTable_keys_sub_all (K : Nat) (reads : List (Seq × Exts × Nat)) (sm : Summarizer) (st : Bool) :
    ∀ e ∈ refTable K reads sm st, e.key ∈ refAllKmers K reads st := by
  intro e he
  unfold refTable at he
  obtain ⟨g, hg, hr⟩ := List.mem_filterMap.mp he
  unfold refAllKmers
  refine List.mem_map.mpr ⟨g, hg, ?_⟩
  obtain ⟨k, obs⟩ := g
  simp only at hr
  split at hr
  · cases hr; rfl
  · cases hr

/-- what the one-pass pipeline computes: `compress_kmers` on the pruned reference table, listed in hash-map order -/
theorem direct_eq (K : Nat) (hK : 4 ≤ K) (reads : List (Seq × Exts × Nat)) (st : Bool) (thr : Nat) (dsigma : List Nat)
    (hds : dsigma.Perm (List.range (refTable K reads (.count thr) st).length)) :
    ∃ Td : Table Filter.Payload, Td.Perm (Filter.removeCensoredExts st (refTable K reads (.count thr) st)) ∧
      ∀ outd, Compress.compressKmersC Td st (fun _ _ => true) sumReduce = some outd →
        direct K reads st thr dsigma = some ⟨K, outd.map (·.1), st⟩ := by
  refine ⟨dsigma.filterMap fun i => (Filter.removeCensoredExts st (refTable K reads (.count thr) st))[i]?, ?_, fun outd hod => ?_⟩
  · apply Compress.perm_of_sigma
    rw [(Filter.removeCensored_exact st _).1]; exact hds
  · obtain ⟨fr, hfr, ht, _⟩ :=
      Filter.filterKmers_eq_ref K reads (.count thr) st false 4 Gen.filterBytesPerUnit 16 hK (by decide) (by decide)
    unfold direct
    rw [hfr]
    simp only
    rw [ht, hod]

/-- what one shard computes: `compress_kmers` on the shard's reference table, pruned the sharded way if asked, listed in
    hash-map order -/
theorem shardGraph_eq (K : Nat) (hK : 4 ≤ K) (st : Bool) (thr : Nat) (prune : Bool) (seqs : List (Seq × Exts × Nat)) (sigma : List Nat) :
    shardGraph K st thr prune seqs sigma =
      (Compress.compressKmersC (sigma.filterMap fun i =>
        (if prune then Filter.removeCensoredExtsSharded st (refTable K seqs (.count thr) st) (refAllKmers K seqs st)
          else refTable K seqs (.count thr) st)[i]?) st (fun _ _ => true) sumReduce).map fun o => o.map (·.1) := by
  obtain ⟨fr, hfr, ht, ha⟩ := Filter.filterKmers_eq_ref K seqs (.count thr) st prune 4 Gen.filterBytesPerUnit 16 hK (by decide) (by decide)
  unfold shardGraph
  rw [hfr]
  simp only
  rw [ht, ha]
  have e : ∀ c : Option (List (Node Filter.Payload × List Nat)),
      (match c with | some ns => some (ns.map (·.1)) | none => none) = c.map fun o => o.map (·.1) := by
    intro c; cases c <;> rfl
  cases prune
  · simp only [Bool.false_eq_true, if_false]; exact e _
  · simp only [if_true]; exact e _

/-- the hash-map orders handed to the model are permutations of the table positions (the harness reads them back from
    the real maps) -/
structure SigmasOK (K P : Nat) (reads : List Seq) (perm : Option (Array Nat)) (st : Bool) (thr : Nat)
    (sigmas : List (List Nat)) (dsigma : List Nat) : Prop where
  shardsOK : ∀ shs, shards K P reads perm (!st) = some shs → sigmas.length = shs.length ∧
    ∀ (i : Nat) (sh : Nat × List (Seq × Exts × Nat)) (sg : List Nat), shs[i]? = some sh → sigmas[i]? = some sg →
      sg.Perm (List.range (refTable K sh.2 (.count thr) st).length)
  directOK : dsigma.Perm (List.range (refTable K (reads.map plainRead) (.count thr) st).length)

/-- what the two pipeline models compute, in terms of the reference table `R`, the shard tables `Ts` (in hash-map order)
    and the one-pass table `Td` (in hash-map order) -/
structure PipeSetup (K P : Nat) (reads : List Seq) (perm : Option (Array Nat)) (st : Bool) (thr : Nat) (prune : Bool)
    (sigmas : List (List Nat)) (dsigma : List Nat) (R : Table Filter.Payload) (Ts : List (Table Filter.Payload))
    (Td : Table Filter.Payload) : Prop where
  hR : R = refTable K (reads.map plainRead) (.count thr) st
  wfR : Compress.WF R K st
  hesR : Filter.ExtSym2 R st
  sw : Compress.Sandwich st Ts.flatten R
  hpd : Td.Perm (Filter.removeCensoredExts st R)
  shardedEq : ∀ outs g' paths, AllBuilt st (fun _ _ => true) sumReduce Ts outs →
    CompressGraph.compressGraph st (⟨K, (outs.map fun o => o.map (·.1)).flatten, st⟩ : Graph.G Filter.Payload) (fun _ _ => true) sumReduce [] = some (g', paths) →
    sharded K P reads perm st thr prune sigmas = some g'
  directEq : ∀ outd, Compress.compressKmersC Td st (fun _ _ => true) sumReduce = some outd →
    direct K (reads.map plainRead) st thr dsigma = some ⟨K, outd.map (·.1), st⟩

theorem pipe_setup (K P : Nat) (reads : List Seq) (perm : Option (Array Nat)) (st : Bool) (thr : Nat) (prune : Bool)
    (sigmas : List (List Nat)) (dsigma : List Nat) (cfg : ShardCfg K P reads perm)
    (hs : SigmasOK K P reads perm st thr sigmas dsigma) :
    ∃ R Ts Td, PipeSetup K P reads perm st thr prune sigmas dsigma R Ts Td := by
  have hK1 : 1 ≤ K := by have := cfg.k4; omega
  have hnb : Filter.NoBoundary (reads.map plainRead) := by
    intro r hr; obtain ⟨r0, _, rfl⟩ := List.mem_map.mp hr; rfl
  obtain ⟨Td, hpd, hdir⟩ := direct_eq K cfg.k4 (reads.map plainRead) st thr dsigma hs.directOK
  obtain ⟨shs, hshards, hasc, htab, hcov⟩ := C04_shard_tables K P reads perm st (Summarizer.count thr) cfg
  obtain ⟨hslen, hsperm⟩ := hs.shardsOK shs hshards
  have wfR := Filter.refTable_wf K hK1 _ hnb (Summarizer.count thr) st
  have hesR := Filter.refTable_extSym2 K hK1 _ hnb (Summarizer.count thr) st
  have hsub := refTable_keys_sub_all K (reads.map plainRead) (Summarizer.count thr) st
  generalize hR : refTable K (reads.map plainRead) (Summarizer.count thr) st = R at *
  generalize refAllKmers K (reads.map plainRead) st = allR at *
  generalize bucketOf (perm.getD (Array.range (4 ^ P))) (!st) P = f at *
  -- the shard tables in hash-map order
  let T0 : Nat → Table Filter.Payload := shardT0 st prune R allR f
  let Ts : List (Table Filter.Payload) := (shs.zip sigmas).map fun p => p.2.filterMap fun i => (T0 p.1.1)[i]?
  have hbsnd : (shs.map (·.1)).Nodup := hasc.imp (fun h => Nat.ne_of_lt h)
  have hT0len : ∀ sh ∈ shs, (T0 sh.1).length = (refTable K sh.2 (Summarizer.count thr) st).length := by
    intro sh hsh
    show (shardT0 st prune R allR f sh.1).length = _
    have := congrArg List.length (Compress.shardT0_keys st prune R allR f sh.1)
    simp only [List.length_map] at this
    rw [this, (htab sh hsh).1]
  have hperm : AllPerm Ts ((shs.map (·.1)).map T0) := by
    rw [List.map_map]
    exact allPerm_of_sigmas (fun sh : Nat × List (Seq × Exts × Nat) => T0 sh.1) shs sigmas hslen (fun i sh sg hsh hsg => by
      show sg.Perm (List.range (T0 sh.1).length)
      rw [hT0len sh (List.mem_of_getElem? hsh)]
      exact hsperm i sh sg hsh hsg)
  have hcovR : ∀ e ∈ R, f e.key ∈ shs.map (·.1) := by
    intro e he
    obtain ⟨sh, hsh, hb⟩ := hcov e.key (hsub e he)
    rw [← hb]
    exact List.mem_map_of_mem hsh
  have sw := Compress.shard_sandwich R wfR allR f (shs.map (·.1)) hbsnd hcovR prune Ts hperm
  refine ⟨R, Ts, Td, hR.symm, wfR, hesR, sw, hpd, ?_, hdir⟩
  intro outs g' paths hb hcg
  unfold sharded
  rw [hshards]
  simp only
  have hbody : ∀ x ∈ shs.zip sigmas, shardGraph K st thr prune x.1.2 x.2 =
      (Compress.compressKmersC (x.2.filterMap fun i => (T0 x.1.1)[i]?) st (fun _ _ => true) sumReduce).map fun o => o.map (·.1) := by
    intro x hx
    obtain ⟨h1, h2⟩ := htab x.1 (List.of_mem_zip hx).1
    rw [shardGraph_eq K cfg.k4, h1, h2]
    rfl
  have hm := mapM_of_allBuilt st (fun _ _ => true) sumReduce
    (fun (x : (Nat × List (Seq × Exts × Nat)) × List Nat) => x.2.filterMap fun i => (T0 x.1.1)[i]?) _ (shs.zip sigmas) outs hbody hb
  rw [hm]
  simp only [combine]
  rw [hcg]
  rfl

/-- **C04 (partition).** For every read set, every configuration inside `msp_sequence`'s contract (`1 ≤ P ≤ K`, `K ≥ 4`,
    the default or any injective minimizer permutation), stranded or not, every count threshold, with or without the
    sharded pruning step, and every order in which the hash maps list their keys: neither pipeline panics, and every node
    of either final graph has exactly the canonical k-mers of some node of the other.  The sharded pipeline's final graph
    also satisfies the node-level invariants `GInv` and `PalEnd`. -/
theorem C04_sharded_eq_direct (K P : Nat) (reads : List Seq) (perm : Option (Array Nat)) (st : Bool) (thr : Nat) (prune : Bool)
    (sigmas : List (List Nat)) (dsigma : List Nat) (cfg : ShardCfg K P reads perm)
    (hs : SigmasOK K P reads perm st thr sigmas dsigma) :
    ∃ gs gd, sharded K P reads perm st thr prune sigmas = some gs ∧
      direct K (reads.map plainRead) st thr dsigma = some gd ∧ SameParts K st gs.nodes gd.nodes ∧
      Graph.GInv gs ∧ CompressGraph.PalEnd gs := by
  obtain ⟨R, Ts, Td, ps⟩ := pipe_setup K P reads perm st thr prune sigmas dsigma cfg hs
  obtain ⟨outs, g', paths, outd, hb, hcg, hod, hsame⟩ := Compress.sharded_eq_direct_abstract ps.wfR ps.hesR Ts ps.sw sumReduce (fun _ _ => true) (fun _ _ => rfl) Td ps.hpd
  obtain ⟨outs2, g2, paths2, hb2, hcg2, hginv, hpalend⟩ := Compress.sharded_result_ginv ps.wfR ps.hesR Ts ps.sw sumReduce (fun _ _ => true) (fun _ _ => rfl)
  have houts := Compress.allBuilt_unique _ _ Ts outs outs2 hb hb2
  subst houts
  rw [hcg] at hcg2
  have hg2 : g' = g2 := by have := Option.some.inj hcg2; exact congrArg Prod.fst this
  subst hg2
  exact ⟨g', ⟨K, outd.map (·.1), st⟩, ps.shardedEq outs g' paths hb hcg, ps.directEq outd hod, hsame, hginv, hpalend⟩

/-- **C04 (the final graph is fully compressed by the crate's own check).** Under the same hypotheses `is_compressed` returns
    `None` on the sharded pipeline's final graph: the `debug_assert!` that ends `compress_graph` (compression.rs:332) cannot
    fire in the pipeline. -/
theorem C04_final_is_compressed (K P : Nat) (reads : List Seq) (perm : Option (Array Nat)) (st : Bool) (thr : Nat) (prune : Bool)
    (sigmas : List (List Nat)) (dsigma : List Nat) (cfg : ShardCfg K P reads perm)
    (hs : SigmasOK K P reads perm st thr sigmas dsigma) :
    ∃ gs, sharded K P reads perm st thr prune sigmas = some gs ∧ Graph.isCompressed gs (fun _ _ => true) = none := by
  obtain ⟨R, Ts, Td, ps⟩ := pipe_setup K P reads perm st thr prune sigmas dsigma cfg hs
  obtain ⟨outs, g', paths, hb, hcg, hic⟩ := Compress.sharded_result_isCompressed ps.wfR ps.hesR Ts ps.sw sumReduce (fun _ _ => true) (fun _ _ => rfl)
  exact ⟨g', ps.shardedEq outs g' paths hb hcg, hic⟩

/-- **C04 (payload totals).** Under the same hypotheses: a node of the sharded pipeline's final graph and a node of the
    one-pass graph that have the same k-mers have the same payload — the count total of the node, saturating at 2^32-1,
    whatever the order in which shards, walks and re-compression folded the counts.  (By `C04_sharded_eq_direct` every node
    of either graph has such a partner.) -/
theorem C04_payloads_agree (K P : Nat) (reads : List Seq) (perm : Option (Array Nat)) (st : Bool) (thr : Nat) (prune : Bool)
    (sigmas : List (List Nat)) (dsigma : List Nat) (cfg : ShardCfg K P reads perm)
    (hs : SigmasOK K P reads perm st thr sigmas dsigma) :
    ∃ gs gd, sharded K P reads perm st thr prune sigmas = some gs ∧
      direct K (reads.map plainRead) st thr dsigma = some gd ∧
      ∀ n ∈ gs.nodes, ∀ m ∈ gd.nodes, (∀ k, k ∈ Compress.canonKeys K st n ↔ k ∈ Compress.canonKeys K st m) → n.data = m.data := by
  obtain ⟨R, Ts, Td, ps⟩ := pipe_setup K P reads perm st thr prune sigmas dsigma cfg hs
  have hgR : Compress.GoodData R := by rw [ps.hR]; exact Compress.refTable_goodData K _ thr st
  obtain ⟨outs, g', paths, outd, hb, hcg, hod, hdata⟩ :=
    Compress.sharded_payload_abstract ps.wfR ps.hesR hgR Ts ps.sw (fun _ _ => true) (fun _ _ => rfl) Td ps.hpd
  exact ⟨g', ⟨K, outd.map (·.1), st⟩, ps.shardedEq outs g' paths hb hcg, ps.directEq outd hod, hdata⟩

/-- **C04 (adjacencies).** Under the same hypotheses the two final graphs have the same adjacencies: as unordered pairs of
    canonical k-mers, the steps between consecutive k-mers inside nodes together with the edges `find_link` resolves
    between node ends are, in both graphs, exactly the extensions recorded in the pruned reference table. -/
theorem C04_adjacencies_agree (K P : Nat) (reads : List Seq) (perm : Option (Array Nat)) (st : Bool) (thr : Nat) (prune : Bool)
    (sigmas : List (List Nat)) (dsigma : List Nat) (cfg : ShardCfg K P reads perm)
    (hs : SigmasOK K P reads perm st thr sigmas dsigma) :
    ∃ gs gd, sharded K P reads perm st thr prune sigmas = some gs ∧
      direct K (reads.map plainRead) st thr dsigma = some gd ∧
      ∀ k1 k2, Compress.AdjGS K st gs.nodes k1 k2 ↔ Compress.AdjGS K st gd.nodes k1 k2 := by
  obtain ⟨R, Ts, Td, ps⟩ := pipe_setup K P reads perm st thr prune sigmas dsigma cfg hs
  obtain ⟨outs, g', paths, outd, hb, hcg, hod, hadj⟩ :=
    Compress.sharded_adjacency_abstract ps.wfR ps.hesR Ts ps.sw sumReduce (fun _ _ => true) (fun _ _ => rfl) Td ps.hpd
  exact ⟨g', ⟨K, outd.map (·.1), st⟩, ps.shardedEq outs g' paths hb hcg, ps.directEq outd hod, hadj⟩

/-- the hypotheses on the hash orders are satisfiable: the identity orders -/
theorem sigmasOK_identity (K P : Nat) (reads : List Seq) (perm : Option (Array Nat)) (st : Bool) (thr : Nat)
    (cfg : ShardCfg K P reads perm) :
    ∃ sigmas dsigma, SigmasOK K P reads perm st thr sigmas dsigma := by
  obtain ⟨shs, hshards, _⟩ := C04_shard_tables K P reads perm st (.count thr) cfg
  refine ⟨shs.map fun sh => List.range (refTable K sh.2 (.count thr) st).length, List.range _, ?_, List.Perm.refl _⟩
  intro shs' h
  rw [hshards] at h
  cases h
  refine ⟨by simp, fun i sh sg hsh hsg => ?_⟩
  rw [List.getElem?_map, hsh] at hsg
  simp only [Option.map_some, Option.some.injEq] at hsg
  rw [← hsg]

end Pipeline
