import Dbg.Lemmas.ShardFinal
/-! # C09 (continued) — re-compressing a less compressed graph gives the partition of direct compression

A consequence of the re-compression theorem for ported graphs (`Compress.pgraph_recompress`): build the graph from a
k-mer table with **any** symmetric join predicate that joins *less* than the final one — in particular never: the
one-k-mer-per-node graph — and re-compress it (constantly-true join, no censoring): the result has the same partition of
the k-mers into nodes as compressing the (pruned) table directly. -/
namespace CompressGraph
open Compress (Table WF SameParts compressKmersC)
variable {D : Type}

/-- **C09 (partially compressed graphs).** For every well-formed table `T` reciprocal towards present neighbours, every
    symmetric `join0` and every hash order `Td` of the pruned table: `compress_kmers(T, join0)` then `compress_graph`
    never panics and yields the same partition as `compress_kmers(prune T)` in one pass. With `join0 = fun _ _ => false`
    the intermediate graph has one k-mer per node. -/
theorem C09_recompress_eq_direct {T : Table D} {K : Nat} {st : Bool} (wf : WF T K st) (hes2 : Filter.ExtSym2 T st)
    (reduce : D → D → D) (join0 : D → D → Bool) (hj0 : ∀ a b, join0 a b = join0 b a)
    (Td : Table D) (hperm : Td.Perm (Filter.removeCensoredExts st T)) :
    ∃ out g' paths outd, compressKmersC T st join0 reduce = some out ∧
      compressGraph st (⟨K, out.map (·.1), st⟩ : Graph.G D) (fun _ _ => true) reduce [] = some (g', paths) ∧
      compressKmersC Td st (fun _ _ => true) reduce = some outd ∧
      SameParts K st g'.nodes (outd.map (·.1)) := by
  have sw : Compress.Sandwich st [T].flatten T := by
    have : [T].flatten = T := by simp
    rw [this]; exact Compress.sandwich_refl T wf
  obtain ⟨outs, g', paths, outd, hb, hcg, hod, hs⟩ :=
    Compress.sharded_eq_direct_abstract wf hes2 [T] sw reduce join0 hj0 Td hperm
  cases outs with
  | nil => exact absurd hb (by simp [Compress.AllBuilt])
  | cons out rest =>
    cases rest with
    | cons _ _ => exact absurd hb.2 (by simp [Compress.AllBuilt])
    | nil =>
      refine ⟨out, g', paths, outd, hb.1, ?_, hod, hs⟩
      have : ([out].map fun o => o.map (·.1)).flatten = out.map (·.1) := by simp
      rw [this] at hcg
      exact hcg

end CompressGraph
