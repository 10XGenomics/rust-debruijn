import Dbg.Lemmas.SliceRefine
/-! # C15 — String slices are exact, composable views

`Slice.seq d s` is the substring of the plain base vector `toSeq d` a view stands for (window `start .. start+length`,
reverse-complemented when `is_rc`); `Slice.Valid d s` says the view lies inside its backing string.  For every
well-formed backing string (C14's invariant) and every valid view, every observer is a function of `seq`, and `slice`
and `rc` act on `seq` as `drop/take` and reverse complement — hence, by induction, so does any interleaving at any
nesting depth (`C15_history`). -/
namespace DnaStr.Slice
open Kmer (Cfg)

/-- **C15 (observers).** Reads, renderings (bytes, ASCII, text, `Debug` below the summary threshold) and `to_owned` are
    those of `seq`. -/
theorem C15_observers (d : T) (h : Inv d) (s : Slice) (hv : Valid d s) :
    (seq d s).length = s.length ∧ (∀ i, i < s.length → get d s i = (seq d s)[i]?) ∧
    bytes d s = some (seq d s) ∧ ascii d s = some ((seq d s).map bitsToAscii) ∧
    display d s = some ((seq d s).map bitsToBase) ∧ (s.length < 256 → debug d s = some ((seq d s).map bitsToBase)) ∧
    (∃ d', toOwned d s = some d' ∧ Inv d' ∧ toSeq d' = seq d s) :=
  ⟨seq_length d h s hv, get_spec d h s hv, bytes_spec d h s hv, ascii_spec d h s hv, display_spec d h s hv,
   debug_spec d h s hv, toOwned_spec d h s hv⟩

/-- **C15 (equality)** of two views, of the same or different strings -/
theorem C15_eq (d1 : T) (h1 : Inv d1) (s1 : Slice) (v1 : Valid d1 s1) (d2 : T) (h2 : Inv d2) (s2 : Slice) (v2 : Valid d2 s2) :
    eq d1 s1 d2 s2 = some (decide (seq d1 s1 = seq d2 s2)) := by
  unfold eq
  by_cases hl : s2.length ≠ s1.length
  · rw [if_pos hl]
    have : seq d1 s1 ≠ seq d2 s2 := fun e => hl (by rw [← seq_length d1 h1 s1 v1, ← seq_length d2 h2 s2 v2, e])
    simp [this]
  · rw [if_neg hl, bytes_spec d1 h1 s1 v1, bytes_spec d2 h2 s2 v2]
    congr 1
    by_cases he : seq d1 s1 = seq d2 s2 <;> simp [he]

/-- **C15 (constructors).** prefix / suffix / interval views of a string -/
theorem C15_constructors (d : T) :
    (∀ k, k ≤ d.len → ∃ s, prefix_ d k = some s ∧ Valid d s ∧ seq d s = (toSeq d).take k) ∧
    (∀ k, k ≤ d.len → ∃ s, suffix_ d k = some s ∧ Valid d s ∧ seq d s = ((toSeq d).drop (d.len - k)).take k) ∧
    (∀ a b, a ≤ b → b ≤ d.len → ∃ s, sliceOf d a b = some s ∧ Valid d s ∧ seq d s = ((toSeq d).drop a).take (b - a)) :=
  ⟨fun k hk => ⟨⟨0, k, false⟩, by unfold prefix_; rw [if_pos hk], by unfold Valid; simpa using hk, by simp [seq]⟩,
   fun k hk => ⟨⟨d.len - k, k, false⟩, by unfold suffix_; rw [if_pos hk], by unfold Valid; simp; omega, by simp [seq]⟩,
   fun a b hab hb => ⟨⟨a, b - a, false⟩, by unfold sliceOf; rw [if_pos ⟨by omega, hb, hab⟩], by unfold Valid; simp; omega, by simp [seq]⟩⟩

/-- view operations of a history -/
inductive VOp | slice (a b : Nat) | rc

def runV (s : Slice) : VOp → Option Slice
  | .slice a b => s.slice a b | .rc => some s.rc
def specV (l : List Nat) : VOp → List Nat
  | .slice a b => (l.drop a).take (b - a) | .rc => KSpec.rc l
def VOp.ok (l : List Nat) : VOp → Prop
  | .slice a b => a ≤ b ∧ b ≤ l.length | .rc => True
def runAllV : List VOp → Slice → Option Slice
  | [], s => some s
  | op :: ops, s => (runV s op).bind (runAllV ops)
def specAllV : List VOp → List Nat → List Nat
  | [], l => l
  | op :: ops, l => specAllV ops (specV l op)
def okAllV : List VOp → List Nat → Prop
  | [], _ => True
  | op :: ops, l => op.ok l ∧ okAllV ops (specV l op)

/-- **C15 (histories).** Any interleaving of `slice` and `rc`, to any depth, yields a valid view that
    stands for the same operations applied to the plain base vector. -/
theorem C15_history (d : T) (h : Inv d) (ops : List VOp) (s : Slice) (hv : Valid d s) (hok : okAllV ops (seq d s)) :
    ∃ s', runAllV ops s = some s' ∧ Valid d s' ∧ seq d s' = specAllV ops (seq d s) := by
  induction ops generalizing s with
  | nil => exact ⟨s, rfl, hv, rfl⟩
  | cons op ops ih =>
    have step : ∃ s1, runV s op = some s1 ∧ Valid d s1 ∧ seq d s1 = specV (seq d s) op := by
      cases op with
      | slice a b => exact slice_spec d h s hv a b hok.1.1 (seq_length d h s hv ▸ hok.1.2)
      | rc => exact ⟨s.rc, rfl, (rc_spec d h s hv).1, (rc_spec d h s hv).2⟩
    obtain ⟨s1, e1, v1, t1⟩ := step
    obtain ⟨s2, e2, v2, t2⟩ := ih s1 v1 (by rw [t1]; exact hok.2)
    exact ⟨s2, by simp only [runAllV, e1, Option.bind_some]; exact e2, v2, by rw [t2, t1]; rfl⟩

/-- the interval assertions are exactly `a ≤ b ≤ length` (outside them `slice` panics) -/
theorem C15_slice_guard (s : Slice) (a b : Nat) : (s.slice a b).isSome ↔ (a ≤ b ∧ b ≤ s.length) := slice_isSome s a b

/-- **C15 (k-mers).** `get_kmer(pos)` of a view spells bases `pos..pos+K` of the view, in either orientation -/
theorem C15_getKmer (c : Cfg) (hc : c.WF) (hw : c.w ∈ [8, 16, 32, 64, 128]) (d : T) (h : Inv d) (s : Slice) (hv : Valid d s)
    (pos : Nat) :
    (pos + c.K ≤ s.length → ∃ k, getKmer c d s pos = some k ∧ Kmer.Inv c k ∧ Kmer.toSeq c k = ((seq d s).drop pos).take c.K) ∧
    (¬ pos + c.K ≤ s.length → getKmer c d s pos = none) :=
  ⟨getKmer_spec c hc hw d h s hv pos, getKmer_guard c d s pos⟩

/-- **C15 (Hamming distance).** For two equal-length views — any lengths (block path and tail), any
    offsets, either orientation — `hamming_dist` is the number of differing positions; unequal lengths are refused. -/
theorem C15_hamming (d1 : T) (h1 : Inv d1) (s1 : Slice) (v1 : Valid d1 s1) (d2 : T) (h2 : Inv d2) (s2 : Slice) (v2 : Valid d2 s2) :
    (s1.length = s2.length → hammingDist d1 s1 d2 s2 = some (KSpec.hamming (seq d1 s1) (seq d2 s2))) ∧
    (s1.length ≠ s2.length → hammingDist d1 s1 d2 s2 = none) :=
  ⟨hammingDist_spec d1 h1 s1 v1 d2 h2 s2 v2, hammingDist_guard d1 s1 d2 s2⟩

/-- non-vacuity: a nested, twice reverse-complemented view of a 1100-base string, long enough for the block path -/
example : okAllV [.slice 3 1090, .rc, .slice 10 1060, .rc, .rc] (List.replicate 1100 1) := by
  simp only [okAllV, VOp.ok, specV, KSpec.rc_length, List.length_take, List.length_drop, List.length_replicate]
  decide

end DnaStr.Slice
