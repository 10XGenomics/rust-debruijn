import Dbg.Props.C01
import Dbg.Lemmas.BoomCreate
/-! # C01 (continued) — the hash-map glue of `compress_kmers_with_hash`

`compress_kmers_with_hash` reads its input through a `BoomHashMap2<K, Exts, D>`: ids are slots, `get_key_id` turns a
neighbouring k-mer into an id.  The model of `Props/C01` takes the table *in slot order* and looks ids up by position
(`findId`); the theorems there hold for every order.  Here the two are joined above `Mphf`: for every function that is a
minimal perfect hash on the table's keys - arbitrary on other k-mers, whichever builder and schedule produced it -
`create_map` terminates with a table that is a permutation of the rows, and `get_key_id` on it *is* `findId`, for present
and absent k-mers alike.  So the partition theorems apply to the table the real map holds. -/
namespace Compress
variable {D : Type}

/-- `BoomHashMap2::new(keys, exts, data)`: the rows in the slot order the hash function dictates -/
def hashTable (th : Seq → Option Nat) (T : Table D) : Option (Table D) :=
  (Boom.createTable th (T.map fun e => (e.key, e))).map fun R => R.map (·.2)

/-- **C01 (hash-map glue).** `create_map` returns a permutation of the rows on which `get_key_id` is `findId`. -/
theorem C01_hash_index (th : Seq → Option Nat) (T : Table D) (hm : Boom.MPH th (T.map (·.key)))
    (hr : ∀ k pos, th k = some pos → pos < T.length) :
    ∃ T', hashTable th T = some T' ∧ T'.Perm T ∧ ∀ k, Boom.keyIdOf th (T'.map (·.key)) k = some (findId T' k) := by
  have hm' : Boom.MPH th ((T.map fun e => (e.key, e)).map (·.1)) := by
    simpa [List.map_map, Function.comp_def] using hm
  obtain ⟨R, e1, e2, e3⟩ := Boom.createTable_spec th (T.map fun e => (e.key, e)) hm'
  have hfst : ∀ r ∈ R, r.1 = r.2.key := by
    intro r hr'
    have := e2.mem_iff.mp hr'
    simp only [List.mem_map] at this
    obtain ⟨e, _, rfl⟩ := this
    rfl
  have hkeys : (R.map (·.2)).map (·.key) = R.map (·.1) := by
    rw [List.map_map]
    exact List.map_congr_left fun r hr' => (hfst r hr').symm
  have hperm : (R.map (·.2)).Perm T := by
    have := e2.map (·.2)
    simpa [List.map_map, Function.comp_def] using this
  refine ⟨R.map (·.2), by simp only [hashTable, e1, Option.map_some], hperm, ?_⟩
  intro k
  rw [hkeys, Boom.keyId_exact th (R.map (·.1)) e3 (by
    intro k pos h
    have := hr k pos h
    have hl := hperm.length_eq
    simp only [List.length_map] at hl ⊢
    omega) k]
  congr 1
  rw [← hkeys, findId, List.findIdx?_map]
  rfl

/-- **C01 through the real index.** Well-formed reciprocal table, any minimal perfect hash on its keys: the map is built,
    its lookups are the model's, and the graph built over its slot order is a lossless partition of the table's keys. -/
theorem C01_partition_hashed {T : Table D} {K : Nat} {st : Bool} {join : D → D → Bool} (reduce : D → D → D)
    (th : Seq → Option Nat) (hm : Boom.MPH th (T.map (·.key))) (hr : ∀ k pos, th k = some pos → pos < T.length)
    (wf : ∀ T', T'.Perm T → WF T' K st) (hes : ∀ T', T'.Perm T → ExtSym T' st) (hj : ∀ a b, join a b = join b a) :
    ∃ T' out, hashTable th T = some T' ∧ (∀ k, Boom.keyIdOf th (T'.map (·.key)) k = some (findId T' k)) ∧
      compressKmersC T' st join reduce = some out ∧
      (out.flatMap fun x => (windowsOf K x.1.seq).map (fun w => (canonOf st w).1)).Perm (T.map (·.key)) ∧
      ∀ x ∈ out, K ≤ x.1.seq.length := by
  obtain ⟨T', h1, h2, h3⟩ := C01_hash_index th T hm hr
  obtain ⟨out, o1, o2, o3⟩ := C01_partition (join := join) reduce (wf T' h2) (hes T' h2) hj
  exact ⟨T', out, h1, h3, o1, o2.trans (h2.map (·.key)), o3⟩

end Compress
