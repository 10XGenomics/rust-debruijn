import Dbg.Model.Export
import Dbg.Lemmas.EdgeComplete
/-! # C20 — Exports and persistence are faithful

The GFA export (model after the repair of D6): every `L` record written for a node is one of the edges reported from
the corresponding side of that node (soundness); on a graph whose edge lists are symmetric every adjacency — between
different nodes, a circular self-link, hairpin self-links on either side — is written (completeness), and for every
graph none is written twice.  The JSON writer is in C20b/C20c, the dot export in C20d, the serde texts in C20e. -/
namespace Export
open Compress (Seq Node)
open Walk (Dir)
open Graph
variable {D : Type}

/-- side of the source node a record leaves from -/
def GfaLink.side (l : GfaLink) : Dir := if l.plus then .R else .L

theorem nodeLinks_eq_some {g : G D} {id : Nat} {ls : List GfaLink} (h : nodeLinks g id = some ls) :
    ∃ le re, findEdges g id .L = some le ∧ findEdges g id .R = some re ∧
      ls = (le.filter fun e => decide (e.1 ≥ id)).map (fun e => ⟨id, false, e.1, e.2.1⟩) ++
        (re.filter fun e => decide (e.1 > id ∨ (e.1 = id ∧ e.2.1 = .R))).map (fun e => ⟨id, true, e.1, e.2.1⟩) := by
  unfold nodeLinks at h
  cases hL : findEdges g id .L with
  | none => rw [hL] at h; cases h
  | some le =>
    cases hR : findEdges g id .R with
    | none => rw [hL, hR] at h; cases h
    | some re => rw [hL, hR] at h; exact ⟨le, re, rfl, rfl, (Option.some.inj h).symm⟩

theorem nodeLinks_shape (g : G D) (id : Nat) (ls : List GfaLink) (h : nodeLinks g id = some ls) (l : GfaLink) (hl : l ∈ ls) :
    l.src = id ∧ id ≤ l.dst ∧ ∃ es f, findEdges g id l.side = some es ∧ (l.dst, l.toSide, f) ∈ es := by
  obtain ⟨le, re, hL, hR, rfl⟩ := nodeLinks_eq_some h
  rcases List.mem_append.mp hl with h1 | h1
  · obtain ⟨e, he, rfl⟩ := List.mem_map.mp h1
    obtain ⟨hm, hc⟩ := List.mem_filter.mp he
    exact ⟨rfl, of_decide_eq_true hc, le, e.2.2, hL, hm⟩
  · obtain ⟨e, he, rfl⟩ := List.mem_map.mp h1
    obtain ⟨hm, hc⟩ := List.mem_filter.mp he
    exact ⟨rfl, (of_decide_eq_true hc).elim Nat.le_of_lt (fun h' => Nat.le_of_eq h'.1.symm), re, e.2.2, hR, hm⟩

/-- **GFA soundness.** Every link written for node `id` is an adjacency of the graph, reported from the side it names. -/
theorem gfa_link_sound (g : G D) (id : Nat) (ls : List GfaLink) (h : nodeLinks g id = some ls) (l : GfaLink) (hl : l ∈ ls) :
    l.src = id ∧ ∃ es f, findEdges g id l.side = some es ∧ (l.dst, l.toSide, f) ∈ es :=
  have hs := nodeLinks_shape g id ls h l hl
  ⟨hs.1, hs.2.2⟩

def allLinks (g : G D) : Option (List GfaLink) := ((List.range g.nodes.length).mapM (nodeLinks g)).map List.flatten

def EdgeSym (g : G D) : Prop :=
  ∀ u d v s f es, findEdges g u d = some es → (v, s, f) ∈ es →
    ∃ es' f', findEdges g v s = some es' ∧ (u, d, f') ∈ es'

/-- a record for the adjacency between port `(u,d)` and port `(v,s)`, written from either end -/
def Listed (ls : List GfaLink) (u : Nat) (d : Dir) (v : Nat) (s : Dir) : Prop :=
  (∃ l ∈ ls, l.src = u ∧ l.side = d ∧ l.dst = v ∧ l.toSide = s) ∨ (∃ l ∈ ls, l.src = v ∧ l.side = s ∧ l.dst = u ∧ l.toSide = d)

theorem map_of_mapM_some {α β : Type} (f : α → Option β) : ∀ (l : List α) (r : List β), l.mapM f = some r → l.map f = r.map some :=
  fun l r => (List.mapM_eq_some_iff f l r).mp

theorem length_of_mapM_some {α β : Type} (f : α → Option β) (l : List α) (r : List β) (h : l.mapM f = some r) :
    r.length = l.length :=
  List.length_of_mapM_eq_some h

theorem allLinks_eq_some {g : G D} {all : List GfaLink} (h : allLinks g = some all) :
    ∃ lss : List (List GfaLink), all = lss.flatten ∧ lss.length = g.nodes.length ∧
      ∀ (i : Nat) (hi : i < lss.length), nodeLinks g i = some lss[i] := by
  unfold allLinks at h
  cases hm : (List.range g.nodes.length).mapM (nodeLinks g) with
  | none => rw [hm] at h; cases h
  | some lss =>
    rw [hm] at h
    have hmap := map_of_mapM_some _ _ _ hm
    have hlen : lss.length = g.nodes.length := by rw [length_of_mapM_some _ _ _ hm, List.length_range]
    refine ⟨lss, (Option.some.inj h).symm, hlen, fun i hi => ?_⟩
    have := congrArg (·[i]?) hmap
    simp only [List.getElem?_map, List.getElem?_range (hlen ▸ hi), List.getElem?_eq_getElem hi, Option.map_some] at this
    exact Option.some.inj this

theorem mem_allLinks (g : G D) (all : List GfaLink) (h : allLinks g = some all) (id : Nat) (hid : id < g.nodes.length)
    (ls : List GfaLink) (hn : nodeLinks g id = some ls) (l : GfaLink) (hl : l ∈ ls) : l ∈ all := by
  obtain ⟨lss, rfl, hlen, hnode⟩ := allLinks_eq_some h
  have := hnode id (hlen ▸ hid)
  rw [hn] at this
  exact List.mem_flatten.mpr ⟨ls, Option.some.inj this ▸ List.getElem_mem _, hl⟩

def EdgesInRange (g : G D) : Prop :=
  ∀ u d es, findEdges g u d = some es → ∀ e ∈ es, e.1 < g.nodes.length

theorem findEdges_lt (g : G D) (u : Nat) (d : Dir) (es : List Edge) (he : findEdges g u d = some es) :
    u < g.nodes.length ∧ ∀ e ∈ es, e.1 < g.nodes.length := by
  obtain ⟨hus, hvs⟩ := findEdges_nodes g u d es he
  refine ⟨?_, fun e hm => ?_⟩
  · obtain ⟨n, hn⟩ := Option.isSome_iff_exists.mp hus
    exact getElem?_lt hn
  · obtain ⟨n, hn⟩ := Option.isSome_iff_exists.mp (hvs e hm)
    exact getElem?_lt hn

theorem written_from (g : G D) (all : List GfaLink) (h : allLinks g = some all)
    (u : Nat) (d : Dir) (v : Nat) (s : Dir) (f : Bool) (es : List Edge) (hu : u < g.nodes.length)
    (he : findEdges g u d = some es) (hm : (v, s, f) ∈ es)
    (hc : (d = .L ∧ v ≥ u) ∨ (d = .R ∧ (v > u ∨ (v = u ∧ s = .R)))) :
    ∃ l ∈ all, l.src = u ∧ l.side = d ∧ l.dst = v ∧ l.toSide = s := by
  obtain ⟨lss, rfl, hlen, hnode⟩ := allLinks_eq_some h
  obtain ⟨le, re, hL, hR, hls⟩ := nodeLinks_eq_some (hnode u (hlen ▸ hu))
  have hmem : ∀ l, l ∈ lss[u]'(hlen ▸ hu) → l ∈ lss.flatten := fun l hl => List.mem_flatten.mpr ⟨_, List.getElem_mem _, hl⟩
  rcases hc with ⟨rfl, hge⟩ | ⟨rfl, hc⟩
  · cases hL.symm.trans he
    exact ⟨_, hmem _ (hls ▸ List.mem_append_left _ (List.mem_map.mpr ⟨(v, s, f), List.mem_filter.mpr ⟨hm, decide_eq_true hge⟩, rfl⟩)),
      rfl, rfl, rfl, rfl⟩
  · cases hR.symm.trans he
    exact ⟨_, hmem _ (hls ▸ List.mem_append_right _ (List.mem_map.mpr ⟨(v, s, f), List.mem_filter.mpr ⟨hm, decide_eq_true hc⟩, rfl⟩)),
      rfl, rfl, rfl, rfl⟩

/-- **GFA completeness.** On a graph with symmetric edge lists every adjacency — between two nodes, a circular
    self-link, a hairpin self-link on the left or on the right side — is written at least once. -/
theorem gfa_links_complete_of_back (g : G D) (all : List GfaLink) (h : allLinks g = some all)
    (u : Nat) (d : Dir) (v : Nat) (s : Dir) (f : Bool) (es : List Edge)
    (he : findEdges g u d = some es) (hm : (v, s, f) ∈ es)
    (hback : ∃ es' f', findEdges g v s = some es' ∧ (u, d, f') ∈ es') : Listed all u d v s := by
  obtain ⟨es', f', he', hm'⟩ := hback
  have hu := (findEdges_lt g u d es he).1
  have hv := (findEdges_lt g v s es' he').1
  have fromU : _ → Listed all u d v s := fun hc => Or.inl (written_from g all h u d v s f es hu he hm hc)
  have fromV : _ → Listed all u d v s := fun hc => Or.inr (written_from g all h v s u d f' es' hv he' hm' hc)
  -- the lower-numbered node writes the record; on a self-link the left side does, or the side of the hairpin
  rcases Nat.lt_trichotomy u v with hlt | rfl | hgt
  · cases d with
    | L => exact fromU (.inl ⟨rfl, Nat.le_of_lt hlt⟩)
    | R => exact fromU (.inr ⟨rfl, .inl hlt⟩)
  · cases d with
    | L => exact fromU (.inl ⟨rfl, Nat.le_refl _⟩)
    | R =>
      cases s with
      | R => exact fromU (.inr ⟨rfl, .inr ⟨rfl, rfl⟩⟩)
      | L => exact fromV (.inl ⟨rfl, Nat.le_refl _⟩)
  · cases s with
    | L => exact fromV (.inl ⟨rfl, Nat.le_of_lt hgt⟩)
    | R => exact fromV (.inr ⟨rfl, .inl hgt⟩)

/-- completeness under symmetry of the edge lists alone: `hrange` and `hu` hold of every graph (`findEdges_lt`) -/
theorem gfa_links_complete (g : G D) (hsym : EdgeSym g) (hrange : EdgesInRange g) (all : List GfaLink) (h : allLinks g = some all)
    (u : Nat) (d : Dir) (v : Nat) (s : Dir) (f : Bool) (es : List Edge) (hu : u < g.nodes.length)
    (he : findEdges g u d = some es) (hm : (v, s, f) ∈ es) : Listed all u d v s :=
  gfa_links_complete_of_back g all h u d v s f es he hm (hsym u d v s f es he hm)

/-- **GFA completeness from the node-level invariant.** In a graph satisfying `GInv`, every adjacency between two nodes
    neither of which is a single-k-mer node (the two sides of a palindromic one are indistinguishable) is written. -/
theorem gfa_links_complete_ginv (g : G D) (hg : GInv g) (all : List GfaLink) (h : allLinks g = some all)
    (u : Nat) (d : Dir) (v : Nat) (s : Dir) (f : Bool) (es : List Edge)
    (he : findEdges g u d = some es) (hm : (v, s, f) ∈ es)
    (hnu : ∀ nu, g.nodes[u]? = some nu → nu.seq.length ≠ g.K) (hnv : ¬ PalNode g v) : Listed all u d v s := by
  obtain ⟨s', es', d', f', he', hm', hs', hd'⟩ := edges_symmetric g hg u d es he v s f hm
  -- the reciprocal edge is reported from `(v, s)` and names `(u, d)`: the two exceptions are excluded by `hnv` and `hnu`
  obtain rfl : s' = s := hs'.resolve_right hnv
  obtain rfl : d' = d := hd'.resolve_right fun ⟨nu, h1, h2⟩ => hnu nu h1 h2
  exact gfa_links_complete_of_back g all h u d' v s' f es he hm ⟨es', f', he', hm'⟩

/-- **GFA completeness for built graphs.** In the export of any graph `compress_kmers` builds from a well-formed
    reciprocal table, every adjacency between nodes of more than one k-mer is written (exactly once, with
    `gfa_no_duplicate`). -/
theorem gfa_complete_of_compress {T : Compress.Table D} {K : Nat} {st : Bool} {join : D → D → Bool} (reduce : D → D → D)
    (wf : Compress.WF T K st) (hes2 : Filter.ExtSym2 T st) (hj : ∀ a b, join a b = join b a)
    (out : List (Node D × List Nat)) (ho : Compress.compressKmersC T st join reduce = some out)
    (all : List GfaLink) (h : allLinks (⟨K, out.map (·.1), st⟩ : G D) = some all)
    (u : Nat) (d : Dir) (v : Nat) (s : Dir) (f : Bool) (es : List Edge)
    (he : findEdges (⟨K, out.map (·.1), st⟩ : G D) u d = some es) (hm : (v, s, f) ∈ es)
    (hnu : ∀ nu, (out.map (·.1))[u]? = some nu → nu.seq.length ≠ K) (hnv : ¬ PalNode (⟨K, out.map (·.1), st⟩ : G D) v) :
    Listed all u d v s :=
  gfa_links_complete_ginv _ (Compress.compress_ginv reduce wf hes2 hj out ho) all h u d v s f es he hm hnu hnv

def SamePorts (a b : GfaLink) : Prop :=
  (a.src = b.src ∧ a.side = b.side ∧ a.dst = b.dst ∧ a.toSide = b.toSide) ∨
  (a.src = b.dst ∧ a.side = b.toSide ∧ a.dst = b.src ∧ a.toSide = b.side)

theorem extend_inj (t : Seq) (b1 b2 : Compress.Base) (d : Dir) (h : Compress.extend t b1 d = Compress.extend t b2 d) : b1 = b2 := by
  cases d with
  | L => exact (List.cons.inj (h : b1 :: t.dropLast = b2 :: t.dropLast)).1
  | R => exact (List.cons.inj (List.append_cancel_left (h : t.tail ++ [b1] = t.tail ++ [b2]))).1

/-- two k-mers that `find_link`, searching in the same direction, resolves to the same port are equal: the side of the
    port tells whether the k-mer was found flipped -/
theorem findLink_port_inj (g : G D) (k1 k2 : Seq) (d : Dir) (e1 e2 : Edge) (h1 : findLink g k1 d = some e1)
    (h2 : findLink g k2 d = some e2) (hp : (e1.1, e1.2.1) = (e2.1, e2.2.1)) : k1 = k2 := by
  obtain ⟨v, s, f1⟩ := e1
  obtain ⟨v2, s2, f2⟩ := e2
  cases hp
  obtain ⟨n1, hn1, ht1, hf10, hf11⟩ := findLink_sound g _ _ _ _ _ h1
  obtain ⟨n2, hn2, ht2, hf20, hf21⟩ := findLink_sound g _ _ _ _ _ h2
  cases hn1.symm.trans hn2
  have hne : d ≠ d.flip := by cases d <;> exact Dir.noConfusion
  cases f1 <;> cases f2
  · exact ht1.symm.trans ht2
  · exact absurd ((hf21 rfl).1.symm.trans (hf10 rfl)) hne
  · exact absurd ((hf11 rfl).1.symm.trans (hf20 rfl)) hne
  · have e : Compress.rc k1 = Compress.rc k2 := ht1.symm.trans ht2
    rw [← Compress.rc_rc k1, e, Compress.rc_rc]

theorem edges_ports_nodup (g : G D) (u : Nat) (d : Dir) (es : List Edge) (he : findEdges g u d = some es) :
    (es.map fun e => (e.1, e.2.1)).Nodup := by
  unfold findEdges at he
  cases hn : g.nodes[u]? with
  | none => rw [hn] at he; cases he
  | some nd =>
    rw [hn] at he
    cases he
    -- distinct bases extend the terminal k-mer differently, and different k-mers resolve to different ports
    rw [List.Nodup, List.pairwise_map]
    refine List.Pairwise.filterMap _ (fun b b' hne e hb e' hb' hpe => hne ?_) (by decide : base4.Nodup)
    split at hb
    · split at hb'
      · exact extend_inj _ _ _ _ (findLink_port_inj g _ _ d e e' hb hb' hpe)
      · cases hb'
    · cases hb

theorem nodeLinks_pairwise (g : G D) (id : Nat) (ls : List GfaLink) (h : nodeLinks g id = some ls) :
    ls.Pairwise (fun a b => ¬ SamePorts a b) := by
  obtain ⟨le, re, hL, hR, rfl⟩ := nodeLinks_eq_some h
  have side : ∀ (es : List Edge) (plus : Bool), (es.map fun e => (e.1, e.2.1)).Nodup →
      (es.map fun e => (⟨id, plus, e.1, e.2.1⟩ : GfaLink)).Pairwise (fun a b => ¬ SamePorts a b) := by
    intro es plus hnd
    rw [List.pairwise_map]
    rw [List.Nodup, List.pairwise_map] at hnd
    refine hnd.imp fun {e1 e2} hne hsp => hne ?_
    rcases hsp with ⟨_, _, h3, h4⟩ | ⟨h1, h2, h3, h4⟩
    · exact Prod.ext h3 h4
    · exact Prod.ext (h3.trans h1) (h4.trans h2)
  rw [List.pairwise_append]
  refine ⟨side _ false ((edges_ports_nodup g id .L le hL).sublist ((List.filter_sublist).map _)),
    side _ true ((edges_ports_nodup g id .R re hR).sublist ((List.filter_sublist).map _)), ?_⟩
  intro a ha b hb hsp
  obtain ⟨ea, hea, rfl⟩ := List.mem_map.mp ha
  obtain ⟨eb, heb, rfl⟩ := List.mem_map.mp hb
  rcases hsp with ⟨_, h2, _, _⟩ | ⟨h1, h2, _, _⟩
  · exact Dir.noConfusion h2
  · -- the right-side record would be `(id, R) -> (id, L)`, which the right-side filter never writes
    rcases of_decide_eq_true (List.mem_filter.mp heb).2 with hq | ⟨_, hq⟩
    · exact absurd h1 (Nat.ne_of_lt hq)
    · exact Dir.noConfusion (h2.trans hq)

/-- **GFA: no adjacency twice.** For every graph, no two `L` records of the export name the same pair of ports (in
    either order): a link between different nodes is written by the lower-numbered node only, a circular self-link from
    the left side only, hairpin self-links once from their own side. -/
theorem gfa_no_duplicate (g : G D) (all : List GfaLink) (h : allLinks g = some all) :
    all.Pairwise (fun a b => ¬ SamePorts a b) := by
  obtain ⟨lss, rfl, _, hnode⟩ := allLinks_eq_some h
  rw [List.pairwise_flatten]
  constructor
  · intro ls hls
    obtain ⟨i, hi, rfl⟩ := List.getElem_of_mem hls
    exact nodeLinks_pairwise g i _ (hnode i hi)
  · rw [List.pairwise_iff_getElem]
    intro i j hi hj hij a ha b hb hsp
    obtain ⟨sa, _, _⟩ := nodeLinks_shape g i _ (hnode i hi) a ha
    obtain ⟨sb, hge, _⟩ := nodeLinks_shape g j _ (hnode j hj) b hb
    -- `a.src = i < j = b.src ≤ b.dst`
    rcases hsp with ⟨h1, _, _, _⟩ | ⟨h1, _, _, _⟩
    · omega
    · omega

/-- one `S` record per node, in order, with the node's sequence (by construction of `write_gfa`) -/
theorem gfa_segment (g : G D) (id : Nat) (txt : String) (h : nodeToGfa g id = some txt) :
    ∃ nd ls, g.nodes[id]? = some nd ∧ nodeLinks g id = some ls ∧
      txt = s!"S\t{id}\t{seqStr nd.seq}\n" ++ String.join (ls.map (renderLink g.K)) := by
  unfold nodeToGfa at h
  cases h1 : g.nodes[id]? with
  | none => rw [h1] at h; cases h
  | some nd =>
    cases h2 : nodeLinks g id with
    | none => rw [h1, h2] at h; cases h
    | some ls => rw [h1, h2] at h; exact ⟨nd, ls, rfl, rfl, (Option.some.inj h).symm⟩

end Export
