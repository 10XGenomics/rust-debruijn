import Dbg.Model.Export
/-! # C20 (continued) — the hand-rolled JSON writer emits the intended document

`toJsonRestImp` follows `to_json_rest` statement by statement: index tests decide between `,\n` and `\n` after a node,
a `wrote_any` flag puts `,\n` before every group of links but the first, `idx < edges.len() - 1` puts `,` after every link
of a group but the last (the dangling comma of defect D5 lived here).  `jsonDoc` is the document it is meant to write:
two arrays whose items are *separated* by commas.  They are equal for every graph, payload rendering and `rest`. -/
namespace Export
open Walk (Dir)
open Graph
variable {D : Type}

/-- a loop that appends after every item a suffix chosen by the item's index - `sep`, except `last` at the final index -
    writes the items separated by `sep`, then `last` -/
theorem suffixFold {α : Type} (f : α → String) (suffix : Nat → String) (sep last : String) :
    ∀ (es : List α) (k : Nat) (acc : String), es ≠ [] →
      (∀ i, i + 1 < k + es.length → suffix i = sep) → suffix (k + es.length - 1) = last →
      (es.zipIdx k).foldl (fun acc (ei : α × Nat) => acc ++ f ei.1 ++ suffix ei.2) acc =
        acc ++ sep.intercalate (es.map f) ++ last
  | [], _, _, h, _, _ => absurd rfl h
  | [a], k, acc, _, _, hl => by
    rw [← hl, List.zipIdx_cons, List.zipIdx_nil, List.foldl_cons, List.foldl_nil, List.map_cons, List.map_nil,
      String.intercalate_singleton]
    rfl
  | a :: b :: t, k, acc, _, hs, hl => by
    have hlen : k + 1 + (b :: t).length = k + (a :: b :: t).length := by rw [List.length_cons (a := a)]; omega
    rw [List.zipIdx_cons, List.foldl_cons,
      suffixFold f suffix sep last (b :: t) (k + 1) _ (List.cons_ne_nil _ _) (fun i hi => hs i (hlen ▸ hi)) (hlen ▸ hl),
      hs k (by simp only [List.length_cons]; omega)]
    simp only [List.map_cons, String.intercalate_cons_cons, String.append_assoc]

/-- a comma after every link but the last one (`idx < n - 1`) = the links separated by commas -/
theorem edgesToJsonImp_eq (i : Nat) (es : List (Nat × Dir × Bool)) :
    edgesToJsonImp i es = ",".intercalate (es.map (linkJson i)) := by
  cases es with
  | nil => rfl
  | cons e t =>
    unfold edgesToJsonImp
    rw [suffixFold (linkJson i) (fun j => if j < (e :: t).length - 1 then "," else "") "," "" (e :: t) 0 ""
      (List.cons_ne_nil _ _) (fun j hj => if_pos (by omega)) (if_neg (by omega)), String.empty_append, String.append_empty]

/-- `\n` after the item with index `n - 1`, `,\n` after the others = the items separated by `,\n`, then `\n` -/
theorem nodesImp_eq (items : List String) :
    nodesImp items.length items = if items.isEmpty then "" else ",\n".intercalate items ++ "\n" := by
  cases items with
  | nil => rfl
  | cons a t =>
    unfold nodesImp
    refine (suffixFold (fun x => x) (fun j => if j = (a :: t).length - 1 then "\n" else ",\n") ",\n" "\n" (a :: t) 0 ""
      (List.cons_ne_nil _ _) (fun j hj => if_neg (by omega)) (if_pos (by omega))).trans ?_
    rw [String.empty_append, List.map_id']
    rfl

theorem linkGroups_cons (es : List (Nat × Dir × Bool)) (t : List (List (Nat × Dir × Bool))) (k : Nat) :
    linkGroups (es :: t) k = if es.isEmpty then linkGroups t (k + 1) else ",".intercalate (es.map (linkJson k)) :: linkGroups t (k + 1) := by
  unfold linkGroups
  rw [List.zipIdx_cons, List.filter_cons]
  cases es.isEmpty <;> simp

/-- the `wrote_any` loop: the groups of the nodes that have right edges, separated by `,\n` -/
theorem linksFold : ∀ (all : List (List (Nat × Dir × Bool))) (k : Nat) (G : List String),
    (all.zipIdx k).foldl (fun (acc : String × Bool) (ei : List (Nat × Dir × Bool) × Nat) =>
      if ei.1.isEmpty then acc
      else ((if acc.2 then acc.1 ++ ",\n" else acc.1) ++ edgesToJsonImp ei.2 ei.1, true)) (",\n".intercalate G, !G.isEmpty) =
    (",\n".intercalate (G ++ linkGroups all k), !(G ++ linkGroups all k).isEmpty) := by
  intro all
  induction all with
  | nil => intro k G; simp [linkGroups]
  | cons es t ih =>
    intro k G
    rw [List.zipIdx_cons, List.foldl_cons, linkGroups_cons]
    by_cases he : es.isEmpty = true
    · simp only [he, if_true]
      exact ih (k + 1) G
    · simp only [he, Bool.false_eq_true, if_false]
      have step : ((if (!G.isEmpty) = true then ",\n".intercalate G ++ ",\n" else ",\n".intercalate G) ++ edgesToJsonImp k es, true) =
          (",\n".intercalate (G ++ [",".intercalate (es.map (linkJson k))]), !(G ++ [",".intercalate (es.map (linkJson k))]).isEmpty) := by
        rw [edgesToJsonImp_eq]
        cases G with
        | nil => simp
        | cons g0 G' =>
          rw [String.intercalate_append_of_ne_nil (by simp) (by simp)]
          simp
      rw [step, ih (k + 1) (G ++ [",".intercalate (es.map (linkJson k))])]
      simp [List.append_assoc]

theorem linksImp_eq (all : List (List (Nat × Dir × Bool))) :
    linksImp all = (",\n".intercalate (linkGroups all 0), !(linkGroups all 0).isEmpty) := by
  unfold linksImp
  have := linksFold all 0 []
  simpa using this

theorem restFold (kvs : List (String × String)) : ∀ (acc : String),
    kvs.foldl (fun acc (kv : String × String) => acc ++ ",\n" ++ jsonStr kv.1 ++ ": " ++ kv.2 ++ "\n") acc =
      acc ++ String.join (kvs.map fun (kv : String × String) => ",\n" ++ jsonStr kv.1 ++ ": " ++ kv.2 ++ "\n") := by
  induction kvs with
  | nil => intro acc; simp
  | cons a t ih =>
    intro acc
    rw [List.foldl_cons, ih]
    simp [String.append_assoc]

/-- the document lists every node: one item per node -/
theorem C20_json_lists_every_node (g : G D) (fmt : D → String) : (nodeItems g fmt).length = g.nodes.length := by
  simp [nodeItems]

/-- **C20 (JSON).** For every graph, payload rendering and `rest` object the writer — with its index tests, its `wrote_any`
    flag and its per-group comma test — emits exactly the document `jsonDoc`: an object whose `nodes` array has one object
    per node and whose `links` array has one object per right-going link, the items of each array separated (never
    followed) by commas; both arrays are empty brackets for empty and link-free graphs. -/
theorem C20_json_writer_eq_document (g : G D) (fmt : D → String) (rest : Option (List (String × String))) :
    toJsonRestImp g fmt rest = jsonDoc g fmt rest := by
  unfold toJsonRestImp jsonDoc
  simp only
  cases hm : (List.range g.nodes.length).mapM (fun i => findEdges g i .R) with
  | none => rfl
  | some all =>
    simp only
    rw [linksImp_eq]
    have hn := nodesImp_eq (nodeItems g fmt)
    rw [C20_json_lists_every_node] at hn
    rw [hn]
    have hl : (if linkGroups all 0 = [] then ",\n".intercalate (linkGroups all 0)
        else ",\n".intercalate (linkGroups all 0) ++ "\n") =
        if linkGroups all 0 = [] then "" else ",\n".intercalate (linkGroups all 0) ++ "\n" := by
      split
      · rename_i h; rw [h]; rfl
      · rfl
    cases rest with
    | none => simp [hl]
    | some kvs =>
      simp only
      rw [restFold kvs ""]
      simp [hl]

/-- the document lists every right-going link: the link objects of the groups, in order, are the link objects of all
    right edge lists (nodes without right edges contribute no group and no object) -/
theorem C20_json_lists_every_link (all : List (List (Nat × Dir × Bool))) (k : Nat) :
    (((all.zipIdx k).filter fun x => !x.1.isEmpty).flatMap fun x => x.1.map (linkJson x.2)) =
      (all.zipIdx k).flatMap fun x => x.1.map (linkJson x.2) := by
  induction all generalizing k with
  | nil => rfl
  | cons es t ih =>
    rw [List.zipIdx_cons, List.filter_cons]
    cases es with
    | nil => simp [ih]
    | cons e es' => simp [ih]

end Export
