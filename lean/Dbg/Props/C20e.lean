import Dbg.Lemmas.SerdeInj
/-! # C20 (persistence) — the serialised texts determine the values

`Serde.*` are the JSON texts `serde_json::to_string` writes for k-mers, extension sets, DNA strings, `Lmer`s, the packed
sequence set and `BaseGraph` (compared with the real serializer on every `persist` request).  Each encoder is injective:
two values with the same text are equal - field by field, including the `len` field of a `DnaString` and every storage word -
so nothing a reader needs is missing from the text or ambiguous in it.  (That `serde_json`'s reader, given such a text,
rebuilds the value is observed on every request, not proved: the derive code and the parser are outside the model.) -/
namespace Serde

/-! Each object is read field by field (`PF.field`): after the opening text, a value followed by the next key or the
    closing brace.  All texts start with `{`. -/

theorem pf_exts : PF exts where
  inj := by
    intro a b r1 r2 _ _ hh
    simp only [exts, List.append_assoc] at hh
    obtain ⟨e1, e2⟩ := pf_num.field (by simp) (List.append_cancel_left hh)
    cases a; cases b; cases e1
    exact ⟨rfl, e2⟩
  head := fun _ => ⟨'{', _, rfl, by decide⟩

theorem pf_kmer (c : Kmer.Cfg) : PF (kmer c) where
  inj := by
    intro a b r1 r2 _ _ hh
    simp only [kmer, List.append_assoc] at hh
    have h1 := List.append_cancel_left hh
    cases hv : c.var <;> rw [hv] at h1
    · obtain ⟨e1, e2⟩ := pf_num.field (by simp) h1
      exact ⟨BitVec.eq_of_toNat_eq e1, e2⟩
    · obtain ⟨e1, e2⟩ := pf_num.field (by simp) h1
      exact ⟨BitVec.eq_of_toNat_eq e1, e2⟩
  head := fun _ => ⟨'{', _, rfl, by decide⟩

theorem pf_block : PF (fun (b : BitVec 64) => num b.toNat) :=
  pf_comp pf_num (fun b => b.toNat) (fun _ _ h => BitVec.eq_of_toNat_eq h)

theorem pf_dna : PF dna where
  inj := by
    intro a b r1 r2 _ _ hh
    simp only [dna, List.append_assoc] at hh
    obtain ⟨e1, h1⟩ := (pf_arr pf_block).field (by simp) (List.append_cancel_left hh)
    obtain ⟨e2, h2⟩ := pf_num.field (by simp) h1
    cases a; cases b; cases e1; cases e2
    exact ⟨rfl, h2⟩
  head := fun _ => ⟨'{', _, rfl, by decide⟩

theorem pf_lmer : PF lmer where
  inj := by
    intro a b r1 r2 _ _ hh
    simp only [lmer, List.append_assoc] at hh
    obtain ⟨e1, h1⟩ := (pf_arr pf_block).field (by simp) (List.append_cancel_left hh)
    cases a; cases b; cases e1
    exact ⟨rfl, h1⟩
  head := fun _ => ⟨'{', _, rfl, by decide⟩

theorem pf_pset : PF pset where
  inj := by
    intro a b r1 r2 _ _ hh
    simp only [pset, List.append_assoc] at hh
    obtain ⟨e1, h1⟩ := pf_dna.field (by simp) (List.append_cancel_left hh)
    obtain ⟨e2, h2⟩ := (pf_arr pf_num).field (by simp) h1
    obtain ⟨e3, h3⟩ := (pf_arr pf_num).field (by simp) h2
    cases a; cases b; cases e1; cases e2; cases e3
    exact ⟨rfl, h3⟩
  head := fun _ => ⟨'{', _, rfl, by decide⟩

theorem pf_baseGraph {D : Type} {ed : D → List Char} (hd : PF ed) : PF (baseGraph ed) where
  inj := by
    intro a b r1 r2 _ _ hh
    simp only [baseGraph, List.append_assoc] at hh
    obtain ⟨e1, h1⟩ := pf_pset.field (by simp) (List.append_cancel_left hh)
    obtain ⟨e2, h2⟩ := (pf_arr pf_exts).field (by simp) h1
    obtain ⟨e3, h3⟩ := (pf_arr hd).field (by simp) h2
    obtain ⟨e4, h4⟩ := pf_bool.field (by simp) h3
    cases a; cases b; cases e1; cases e2; cases e3; cases e4
    exact ⟨rfl, h4⟩
  head := fun _ => ⟨'{', _, rfl, by decide⟩

/-- **C20 (k-mers).** The text written for a k-mer of any configuration determines its storage word. -/
theorem C20_kmer_text_injective (c : Kmer.Cfg) (a b : Kmer.St c) (h : kmer c a = kmer c b) : a = b :=
  (pf_kmer c).injective h

theorem C20_exts_text_injective (a b : Compress.Exts) (h : exts a = exts b) : a = b :=
  pf_exts.injective h

/-- **C20 (DNA strings).** Storage words and length are both recoverable; no invariant on the value is needed. -/
theorem C20_dna_text_injective (a b : DnaStr.T) (h : dna a = dna b) : a = b :=
  pf_dna.injective h

theorem C20_lmer_text_injective (a b : Lmer.T) (h : lmer a = lmer b) : a = b :=
  pf_lmer.injective h

/-- **C20 (`BaseGraph`).** Packed sequences with their start/length tables, extension bytes, payloads (any prefix-decodable payload
    encoder: decimal numbers for the counts used here) and the strandedness flag. -/
theorem C20_baseGraph_text_injective {D : Type} {ed : D → List Char} (hd : PF ed) (a b : Base D)
    (h : baseGraph ed a = baseGraph ed b) : a = b :=
  (pf_baseGraph hd).injective h

/-- the texts are not degenerate: a `DnaString` of three bases and its text -/
example : String.ofList (dna ⟨[0x4400000000000000#64], 3⟩) = "{\"storage\":[4899916394579099648],\"len\":3}" := by decide +kernel

end Serde
