import Dbg.Props.C06b
/-! # C06 (continued) — the adjacencies of the finished graph are strand-invariant

The adjacencies of the one-pass pipeline's graph are the recorded extensions of the pruned table (`PGraph.adj_iff`); a
recorded extension between two retained k-mers is an occurrence of the corresponding (K+1)-mer in the reads, on either
strand (`Occ`), and reverse-complementing a read turns each occurrence into the occurrence of its reverse complement.
K-mers equal to their own reverse complement need no exception here: whichever side the table records their flanks on,
the canonical neighbour is the same. -/
namespace Pipeline
open Compress (Seq Base Exts rc comp Table canonSt extend condFlip AdjK AdjKS AdjGS)
open Filter (refTable removeCensoredExts has Occ NoBoundary flipReads rawE)
open Walk (Dir)

theorem rc_extend (u : Seq) (b : Base) (d : Dir) : rc (extend u b d) = extend (rc u) (comp b) d.flip := by
  rw [Filter.extend_comp_flip, Compress.rc_rc]

/-- the canonical neighbour does not depend on the strand the k-mer is read on -/
theorem canon_extend_flip (u : Seq) (b : Base) (d : Dir) (f : Bool) :
    (canonSt false (extend (Compress.rcIf f u) (if f then comp b else b) (condFlip d f))).1 = (canonSt false (extend u b d)).1 := by
  cases f
  · simp [Compress.rcIf, condFlip]
  · simp only [Compress.rcIf, condFlip, if_true]
    rw [← rc_extend]
    simp only [canonSt, Bool.false_eq_true, if_false]
    exact Filter.minRcFlip_rc_key _

theorem canon_key_self (x : Seq) (h : ¬ (rc x < x)) : (canonSt false x).1 = x :=
  Filter.canonSt_key_self fun _ => h

theorem occ_flip_one (K : Nat) (s : Seq) (E : Exts) (lab : Nat) (u : Seq) (d : Dir) (b : Base) :
    Occ K [(rc s, E, lab)] false u d b ↔ Occ K [(s, E, lab)] false u d b := by
  have key : ∀ (s : Seq), Occ K [(s, E, lab)] false u d b → Occ K [(rc s, E, lab)] false u d b := by
    intro s ⟨r, hr, i, hi, hc⟩
    simp only [List.mem_singleton] at hr
    subst hr
    simp only at hi hc
    obtain ⟨j, hj⟩ : ∃ j, i + j + K = s.length := ⟨s.length - (i + K), by omega⟩
    refine ⟨_, List.mem_singleton.mpr rfl, j, by rw [Compress.rc_length]; omega, ?_⟩
    simp only
    have hw := Filter.win_rc_of_add s K i j hj
    have hE := Filter.rawE_rc_of_add s K i j hj
    have h8 : (rawE s K i).val < 256 := Filter.rawE_lt _ _ _
    rcases hc with ⟨h1, h2⟩ | ⟨_, h1, h2⟩
    · right
      refine ⟨trivial, by rw [hw, Compress.rc_rc]; exact h1, ?_⟩
      rw [hE, Filter.has_rc _ h8, Dir.flip_flip, Compress.comp_comp]; exact h2
    · left
      refine ⟨by rw [hw]; exact h1, ?_⟩
      rw [hE, Filter.has_rc _ h8]; exact h2
  constructor
  · intro h
    have := key (rc s) h
    rwa [Compress.rc_rc] at this
  · exact key s

theorem occ_cons (K : Nat) (r : Seq × Exts × Nat) (rest : List (Seq × Exts × Nat)) (u : Seq) (d : Dir) (b : Base) :
    Occ K (r :: rest) false u d b ↔ Occ K [r] false u d b ∨ Occ K rest false u d b := by
  constructor
  · rintro ⟨x, hx, i, hi, hc⟩
    rcases List.mem_cons.mp hx with rfl | hx'
    · exact Or.inl ⟨x, List.mem_singleton.mpr rfl, i, hi, hc⟩
    · exact Or.inr ⟨x, hx', i, hi, hc⟩
  · rintro (⟨x, hx, i, hi, hc⟩ | ⟨x, hx, i, hi, hc⟩)
    · exact ⟨x, by rw [List.mem_singleton.mp hx]; exact List.mem_cons_self .., i, hi, hc⟩
    · exact ⟨x, List.mem_cons_of_mem _ hx, i, hi, hc⟩

theorem occ_flip (K : Nat) (hK : 1 ≤ K) (m : Nat → Bool) (u : Seq) (d : Dir) (b : Base) :
    ∀ (reads : List (Seq × Exts × Nat)) (k : Nat), Occ K (flipReads m k reads) false u d b ↔ Occ K reads false u d b := by
  intro reads
  induction reads with
  | nil => intro k; exact Iff.rfl
  | cons r rest ih =>
    intro k
    unfold flipReads
    rw [occ_cons, occ_cons (r := r), ih (k + 1)]
    by_cases hm : m k = true
    · rw [if_pos hm, occ_flip_one K r.1 r.2.1 r.2.2]
    · rw [if_neg hm]

/-- the key-level adjacencies of the pruned reference table, in terms of the reads -/
def OAdj (K : Nat) (reads : List (Seq × Exts × Nat)) (keys : List Seq) (k1 k2 : Seq) : Prop :=
  k1 ∈ keys ∧ k2 ∈ keys ∧ ∃ u d b, Occ K reads false u d b ∧ (canonSt false u).1 = k1 ∧ (canonSt false (extend u b d)).1 = k2

theorem adjK_pruned {D : Type} (st : Bool) (R : Table D) (k1 k2 : Seq) :
    AdjK (removeCensoredExts st R) st k1 k2 ↔
      ∃ e0 ∈ R, ∃ (d : Dir) (b : Base), e0.key = k1 ∧ has e0.exts d b ∧ (canonSt st (extend e0.key b d)).1 = k2 ∧
        k2 ∈ R.map (·.key) := by
  constructor
  · rintro ⟨e, he, d, b, hk, hb', ht⟩
    obtain ⟨e0, he0, hk0, _, _, hex⟩ := Filter.pruned_of_mem st R e he
    obtain ⟨h1, h2⟩ := (hex d b).mp hb'
    rw [hk0] at hk ht
    exact ⟨e0, he0, d, b, hk, h1, ht, by rw [← ht, ← Filter.extTarget_eq]; exact h2⟩
  · rintro ⟨e0, he0, d, b, hk, hh, ht, hk2⟩
    obtain ⟨e, he, hk0, _, _, hex⟩ := Compress.mem_pruned st R e0 he0
    exact ⟨e, he, d, b, hk0.trans hk, (hex d b).mpr ⟨hh, by rw [Filter.extTarget_eq, ht]; exact hk2⟩, by rw [hk0]; exact ht⟩

theorem adjK_occ (K : Nat) (hK : 1 ≤ K) (reads : List (Seq × Exts × Nat)) (hb : NoBoundary reads) (sm : Filter.Summarizer)
    (k1 k2 : Seq) :
    AdjK (removeCensoredExts false (refTable K reads sm false)) false k1 k2 ↔
      OAdj K reads ((refTable K reads sm false).map (·.key)) k1 k2 := by
  have wf := Filter.refTable_wf K hK reads hb sm false
  rw [adjK_pruned]
  constructor
  · rintro ⟨e0, he0, d, b, hk, h1, ht, hk2⟩
    obtain ⟨x, hx⟩ := List.mem_iff_getElem?.mp he0
    exact ⟨by rw [← hk]; exact List.mem_map_of_mem he0, hk2, e0.key, d, b,
      Filter.table_occ K hK reads hb sm false e0 he0 d b h1, by rw [← hk]; exact canon_key_self _ (wf.canon rfl x e0 hx), ht⟩
  · rintro ⟨hk1, hk2, u, d, b, hocc, hc1, hc2⟩
    obtain ⟨e1, he1, hke1⟩ := List.mem_map.mp hk1
    have hcu : canonSt false u = (e1.key, (canonSt false u).2) := by rw [hke1, ← hc1]
    have hkey : e1.key = Compress.rcIf (canonSt false u).2 u := by rw [hke1, ← hc1]; exact Compress.canonSt_rcIf false u
    -- the table records the flank on one side or (palindromic key) possibly on the other
    by_cases hp : rc e1.key = e1.key
    · rcases Filter.occ_table_pal K hK reads hb sm u d b hocc e1 he1 _ hcu hp with h | h
      · exact ⟨e1, he1, _, _, hke1, h, by rw [hkey, canon_extend_flip]; exact hc2, hk2⟩
      · refine ⟨e1, he1, _, _, hke1, h, ?_, hk2⟩
        rw [Compress.canon_extend_pal _ hp, hkey, canon_extend_flip]; exact hc2
    · have hnp : (!false && Compress.isPalindrome e1.key) = false := by
        simp only [Bool.not_false, Bool.true_and]
        unfold Compress.isPalindrome
        have : (e1.key == rc e1.key) = false := by
          rw [beq_eq_false_iff_ne]; exact fun h => hp h.symm
        rw [this, Bool.and_false]
      exact ⟨e1, he1, _, _, hke1, Filter.occ_table K hK reads hb sm false u d b hocc e1 he1 _ hcu hnp,
        by rw [hkey, canon_extend_flip]; exact hc2, hk2⟩

theorem adjK_perm {D : Type} {A B : Table D} {st : Bool} (hp : A.Perm B) (k1 k2 : Seq) : AdjK A st k1 k2 ↔ AdjK B st k1 k2 :=
  ⟨fun ⟨e, he, r⟩ => ⟨e, hp.mem_iff.mp he, r⟩, fun ⟨e, he, r⟩ => ⟨e, hp.mem_iff.mpr he, r⟩⟩

theorem direct_pipeline_adj (K : Nat) (hK : 4 ≤ K) (reads : List (Seq × Exts × Nat)) (hb : NoBoundary reads)
    (st : Bool) (thr : Nat) (dsigma : List Nat)
    (hds : dsigma.Perm (List.range (refTable K reads (.count thr) st).length)) :
    ∃ gd, direct K reads st thr dsigma = some gd ∧
      ∀ k1 k2, AdjGS K st gd.nodes k1 k2 ↔ AdjKS (removeCensoredExts st (refTable K reads (.count thr) st)) st k1 k2 := by
  obtain ⟨Td, outd, hpd, wfd, hesd, hcl, hod, hdir⟩ := direct_run K hK reads hb st thr dsigma hds
  obtain ⟨portd, memd, pgd, _⟩ := Compress.pgraph_of_compress sumReduce wfd hesd.toExtSym (fun _ _ => rfl) outd hod
  refine ⟨⟨K, outd.map (·.1), st⟩, hdir, fun k1 k2 => ?_⟩
  show AdjGS K st (outd.map (·.1)) k1 k2 ↔ _
  rw [pgd.adj_iff wfd hesd hcl (fun _ _ => rfl) k1 k2]
  unfold AdjKS
  rw [adjK_perm hpd, adjK_perm hpd]

/-- **C06 (adjacencies, one-pass pipeline).** Unstranded: replacing any subset of the reads by their reverse complements
    does not change the set of adjacencies of the finished graph (unordered pairs of canonical k-mers: steps inside nodes
    and resolved edges between node ends), for equal or different hash orders — k-mers equal to their own reverse complement
    included. -/
theorem C06_direct_adjacency_rc_invariant (K : Nat) (hK : 4 ≤ K) (reads : List (Seq × Exts × Nat)) (hb : NoBoundary reads)
    (thr : Nat) (m : Nat → Bool) (dsigma dsigma' : List Nat)
    (hds : dsigma.Perm (List.range (refTable K reads (.count thr) false).length))
    (hds' : dsigma'.Perm (List.range (refTable K (flipReads m 0 reads) (.count thr) false).length)) :
    ∃ gd gd', direct K reads false thr dsigma = some gd ∧ direct K (flipReads m 0 reads) false thr dsigma' = some gd' ∧
      ∀ k1 k2, AdjGS K false gd.nodes k1 k2 ↔ AdjGS K false gd'.nodes k1 k2 := by
  have hK1 : 1 ≤ K := by omega
  have hb' := Filter.flip_noBoundary m reads hb 0
  obtain ⟨gd, h1, a1⟩ := direct_pipeline_adj K hK reads hb false thr dsigma hds
  obtain ⟨gd', h2, a2⟩ := direct_pipeline_adj K hK (flipReads m 0 reads) hb' false thr dsigma' hds'
  refine ⟨gd, gd', h1, h2, fun k1 k2 => ?_⟩
  have hkeys : (refTable K (flipReads m 0 reads) (.count thr) false).map (·.key) = (refTable K reads (.count thr) false).map (·.key) :=
    (Compress.C06_tables_agree K hK1 reads hb (.count thr) m).keys
  have hO : ∀ a b, OAdj K (flipReads m 0 reads) ((refTable K (flipReads m 0 reads) (.count thr) false).map (·.key)) a b ↔
      OAdj K reads ((refTable K reads (.count thr) false).map (·.key)) a b := by
    intro a b
    unfold OAdj
    rw [hkeys]
    constructor
    · rintro ⟨x, y, u, d, c, ho, r⟩
      exact ⟨x, y, u, d, c, (occ_flip K hK1 m u d c reads 0).mp ho, r⟩
    · rintro ⟨x, y, u, d, c, ho, r⟩
      exact ⟨x, y, u, d, c, (occ_flip K hK1 m u d c reads 0).mpr ho, r⟩
  rw [a1, a2]
  unfold AdjKS
  rw [adjK_occ K hK1 _ hb', adjK_occ K hK1 _ hb', adjK_occ K hK1 _ hb, adjK_occ K hK1 _ hb, hO, hO]

end Pipeline
