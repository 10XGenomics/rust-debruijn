import Dbg.Props.C20
/-! # C20 (further exports) — the dot export and `Debug` of a node

`to_dot` and `Debug for Node` are not named by the property; they are modelled (`Export.toDot`, `Export.nodeDebug`) and
compared with the crate on every export request, and the arrows of the dot text are characterised here. -/
namespace Export
open Walk (Dir)
open Graph
variable {D : Type}

/-- the arrow that stands for the edge `(v, s)` reported from side `d` of `u`: into `u` for a left edge, out of `u` for a right edge -/
def arrowOf (u : Nat) (d : Dir) (v : Nat) (s : Dir) : DotArrow :=
  match d with
  | .L => ⟨v, u, s⟩
  | .R => ⟨u, v, s⟩

/-- **dot: the arrows under a node are exactly its edges** - one per left edge pointing at the node, one per right edge
    leaving it, coloured by the side of the other node the edge arrives on. -/
theorem dot_arrows_iff (g : G D) (id : Nat) (as : List DotArrow) (h : nodeArrows g id = some as) (a : DotArrow) :
    a ∈ as ↔ ∃ d es v s f, findEdges g id d = some es ∧ (v, s, f) ∈ es ∧ a = arrowOf id d v s := by
  unfold nodeArrows at h
  cases hL : findEdges g id .L with
  | none => rw [hL] at h; cases h
  | some le =>
    cases hR : findEdges g id .R with
    | none => rw [hL, hR] at h; cases h
    | some re =>
      rw [hL, hR] at h
      cases h
      constructor
      · intro ha
        rcases List.mem_append.mp ha with h1 | h1
        · obtain ⟨e, he, rfl⟩ := List.mem_map.mp h1
          exact ⟨.L, le, e.1, e.2.1, e.2.2, hL, he, rfl⟩
        · obtain ⟨e, he, rfl⟩ := List.mem_map.mp h1
          exact ⟨.R, re, e.1, e.2.1, e.2.2, hR, he, rfl⟩
      · rintro ⟨d, es, v, s, f, he, hm, rfl⟩
        cases d with
        | L =>
          cases hL.symm.trans he
          exact List.mem_append_left _ (List.mem_map.mpr ⟨(v, s, f), hm, rfl⟩)
        | R =>
          cases hR.symm.trans he
          exact List.mem_append_right _ (List.mem_map.mpr ⟨(v, s, f), hm, rfl⟩)

/-- **dot: on a graph with symmetric edge lists every adjacency is drawn at both of its ends.** -/
theorem dot_adjacency_at_both_ends (g : G D) (hsym : EdgeSym g) (u : Nat) (d : Dir) (v : Nat) (s : Dir) (f : Bool)
    (es : List Edge) (he : findEdges g u d = some es) (hm : (v, s, f) ∈ es)
    (asu asv : List DotArrow) (hu : nodeArrows g u = some asu) (hv : nodeArrows g v = some asv) :
    arrowOf u d v s ∈ asu ∧ arrowOf v s u d ∈ asv := by
  refine ⟨(dot_arrows_iff g u asu hu _).mpr ⟨d, es, v, s, f, he, hm, rfl⟩, ?_⟩
  obtain ⟨es', f', he', hm'⟩ := hsym u d v s f es he hm
  exact (dot_arrows_iff g v asv hv _).mpr ⟨s, es', u, d, f', he', hm', rfl⟩

/-- `to_dot` returns (no `unwrap` fails) exactly when every edge lookup does, and then the text is the header, one block per node in
    index order, and the closing brace -/
theorem toDot_eq (g : G D) (label : D → String) (txt : String) (h : toDot g label = some txt) :
    ∃ blocks, (List.range g.nodes.length).mapM (nodeToDot g label) = some blocks ∧ blocks.length = g.nodes.length ∧
      txt = "digraph {\n" ++ String.join blocks ++ "}\n" := by
  unfold toDot at h
  cases hm : (List.range g.nodes.length).mapM (nodeToDot g label) with
  | none => rw [hm] at h; cases h
  | some bl =>
    rw [hm] at h
    exact ⟨bl, rfl, by rw [length_of_mapM_some _ _ _ hm, List.length_range], (Option.some.inj h).symm⟩

end Export
