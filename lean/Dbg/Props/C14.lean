import Dbg.Lemmas.DnaRefine
/-! # C14 — Growable DNA string is a faithful sequence container

`DnaStr.toSeq d` (the first `len` lanes of the storage blocks) is the base vector a value stands for and `DnaStr.Inv d`
the representation invariant (`⌈len/32⌉` blocks, all lanes from `len` on zero).  Every constructor / mutator establishes
or preserves `Inv` and acts on `toSeq` as the same operation acts on a plain vector; every observer is a function of
`toSeq`; the representation is canonical. -/
namespace DnaStr

theorem C14_block_set (b : BitVec 64) (i v : Nat) (hi : i < 32) (hv : v < 4) :
    Block64.blockSeq (blockSet b (2 * i) v) = (Block64.blockSeq b).set i v := by
  rw [Block64.dna_blockSet_eq b i v hv, Block64.blockSeq_setMut b i v hi hv]

theorem C14_block_get (b : BitVec 64) (i : Nat) (hi : i < 32) :
    (Block64.blockSeq b)[i]? = some (blockGet b (2 * i)) := by
  rw [Block64.dna_blockGet_eq, Block64.blockSeq_get b i hi]

/-- per-block order: integer order of two blocks = lexicographic order of their 32 bases -/
theorem C14_block_order (a b : BitVec 64) : a.toNat < b.toNat ↔ Block64.blockSeq a < Block64.blockSeq b := block_lt a b

theorem C14_blank (n : Nat) : Inv (blank n) ∧ toSeq (blank n) = List.replicate n 0 := blank_spec n

/-- construction and mutation operations of a history -/
inductive Op
  | push (v : Nat) | extend (bytes : List Nat) | pushBytes (bytes : List Nat) (n : Nat) | set (i v : Nat)
  | clear | blank (n : Nat) | fromBytes (bytes : List Nat) | reverse | rc

def run (d : T) : Op → Option T
  | .push v => push d v | .extend bs => extend d bs | .pushBytes bs n => pushBytes d bs n | .set i v => setMut d i v
  | .clear => some (clear d) | .blank n => some (blank n) | .fromBytes bs => fromBytes bs | .reverse => reverse d | .rc => rc d

/-- the same operation on a plain vector of bases -/
def runSpec (l : List Nat) : Op → List Nat
  | .push v => l ++ [v] | .extend bs => l ++ bs | .pushBytes bs n => l ++ unpackBytes bs n | .set i v => l.set i v
  | .clear => [] | .blank n => List.replicate n 0 | .fromBytes bs => bs | .reverse => l.reverse | .rc => l.reverse.map (3 - ·)

/-- the arguments the crate documents: base values below 4, `set` inside the string, `push_bytes` within its bytes -/
def Op.ok (l : List Nat) : Op → Prop
  | .push v => v < 4 | .extend bs => ∀ b ∈ bs, b < 4 | .pushBytes bs n => n ≤ bs.length * 4 | .set i v => i < l.length ∧ v < 4
  | .clear => True | .blank _ => True | .fromBytes bs => ∀ b ∈ bs, b < 4 | .reverse => True | .rc => True

theorem C14_step (d : T) (h : Inv d) (op : Op) (hok : op.ok (toSeq d)) :
    ∃ d', run d op = some d' ∧ Inv d' ∧ toSeq d' = runSpec (toSeq d) op := by
  cases op with
  | push v => exact push_spec d h v hok
  | extend bs => exact extend_spec bs d h hok
  | pushBytes bs n => obtain ⟨d', e, i, s, _⟩ := (pushBytes_spec d h bs n).1 hok; exact ⟨d', e, i, s⟩
  | set i v =>
    obtain ⟨d', e, i', s, _⟩ := setMut_spec d h i v (by rw [← toSeq_length d h]; exact hok.1) hok.2
    exact ⟨d', e, i', s⟩
  | clear => exact ⟨_, rfl, (inv_clear d).1, (inv_clear d).2⟩
  | blank n => exact ⟨_, rfl, (blank_spec n).1, (blank_spec n).2⟩
  | fromBytes bs => obtain ⟨d', e, i, s, _⟩ := fromBytes_spec bs hok; exact ⟨d', e, i, s⟩
  | reverse => exact reverse_spec d h
  | rc => exact rc_spec d h

def runAll : List Op → T → Option T
  | [], d => some d
  | op :: ops, d => (run d op).bind (runAll ops)
def specAll : List Op → List Nat → List Nat
  | [], l => l
  | op :: ops, l => specAll ops (runSpec l op)
def okAll : List Op → List Nat → Prop
  | [], _ => True
  | op :: ops, l => op.ok l ∧ okAll ops (runSpec l op)

/-- **C14 (histories).** After any finite sequence of in-range construction / mutation operations the
    value satisfies the representation invariant and stands for exactly the plain vector obtained by the
    same operations; no operation panics. -/
theorem C14_history (ops : List Op) (d : T) (h : Inv d) (hok : okAll ops (toSeq d)) :
    ∃ d', runAll ops d = some d' ∧ Inv d' ∧ toSeq d' = specAll ops (toSeq d) := by
  induction ops generalizing d with
  | nil => exact ⟨d, rfl, h, rfl⟩
  | cons op ops ih =>
    obtain ⟨d1, e1, i1, s1⟩ := C14_step d h op hok.1
    obtain ⟨d2, e2, i2, s2⟩ := ih d1 i1 (by rw [s1]; exact hok.2)
    exact ⟨d2, by simp only [runAll, e1, Option.bind_some]; exact e2, i2, by rw [s2, s1]; rfl⟩

/-- **C14 (observers).** Length, every base, iteration / bytes, ASCII and text renderings of a well-formed value are
    those of its base vector. -/
theorem C14_observers (d : T) (h : Inv d) :
    d.len = (toSeq d).length ∧ (∀ i, i < d.len → get d i = (toSeq d)[i]?) ∧ toBytes d = some (toSeq d) ∧
    toAsciiVec d = some ((toSeq d).map bitsToAscii) ∧ display d = some ((toSeq d).map bitsToBase) ∧
    (∀ b ∈ toSeq d, b < 4) :=
  ⟨(toSeq_length d h).symm, get_spec d h, toBytes_spec d h, toAsciiVec_spec d h, display_spec d h, toSeq_lt4 d⟩

/-- **C14 (canonical representation).** Two well-formed values with the same bases are the same
    `(storage, len)` pair — so derived `==` and `Hash` depend only on the base sequence. -/
theorem C14_repr_canonical (a b : T) (ha : Inv a) (hb : Inv b) : a = b ↔ toSeq a = toSeq b :=
  ⟨fun h => by rw [h], repr_inj a b ha hb⟩

/-- **C14 (ordering).** Derived `Ord` over `(storage, len)` is the lexicographic order of the base
    vectors, a proper prefix sorting first. -/
theorem C14_cmp_lex (a b : T) (ha : Inv a) (hb : Inv b) :
    (cmp a b = .lt ↔ toSeq a < toSeq b) ∧ (cmp a b = .eq ↔ toSeq a = toSeq b) :=
  ⟨cmp_lt_iff a b ha hb, cmp_eq_iff a b ha hb⟩

/-- **C14 (routes agree).** Two histories that produce the same plain vector produce the same value. -/
theorem C14_routes_agree (ops₁ ops₂ : List Op) (d₁ d₂ : T) (h₁ : Inv d₁) (h₂ : Inv d₂)
    (ok₁ : okAll ops₁ (toSeq d₁)) (ok₂ : okAll ops₂ (toSeq d₂))
    (h : specAll ops₁ (toSeq d₁) = specAll ops₂ (toSeq d₂)) : runAll ops₁ d₁ = runAll ops₂ d₂ := by
  obtain ⟨a, ea, ia, sa⟩ := C14_history ops₁ d₁ h₁ ok₁
  obtain ⟨b, eb, ib, sb⟩ := C14_history ops₂ d₂ h₂ ok₂
  rw [ea, eb, repr_inj a b ia ib (by rw [sa, sb, h])]

/-- **C14 (ndiffs).** The packed difference count of two equal-length values is the number of differing positions. -/
theorem C14_ndiffs (a b : T) (ha : Inv a) (hb : Inv b) (hl : a.len = b.len) :
    ndiffs a b = some (KSpec.hamming (toSeq a) (toSeq b)) := by
  have hsl : a.storage.length = b.storage.length := by rw [ha.blocks, hb.blocks, hl]
  unfold ndiffs
  rw [if_neg (by simp [hl]), if_neg (by omega), ndiffs_blocks _ _ hsl, ← flat, ← flat, flat_eq_pad a ha, flat_eq_pad b hb,
    hamming_append _ _ _ _ (by rw [toSeq_length a ha, toSeq_length b hb, hl]), hamming_zeros, Nat.zero_add, Nat.add_zero]

/-- **C14 (push_bytes guard).** `push_bytes` panics when asked for more 2-bit fields than its bytes hold. -/
theorem C14_pushBytes_guard (d : T) (bytes : List Nat) (n : Nat) (hn : ¬ n ≤ bytes.length * 4) (h : Inv d) :
    pushBytes d bytes n = none := (pushBytes_spec d h bytes n).2 hn

/-- **C14 (packed set).** After adding sequences one by one (each shorter than 2³² bases, the width of
    the stored length), `get(i)` returns the `i`-th added sequence unchanged. -/
theorem C14_packed_set (seqs : List (List Nat)) (hv : ∀ s ∈ seqs, (∀ b ∈ s, b < 4) ∧ s.length < 2 ^ 32) :
    ∃ ps, seqs.foldl (fun acc s => acc.bind (PSet.add · s)) (some PSet.new) = some ps ∧
      ∀ i (hi : i < seqs.length), PSet.get ps i = some seqs[i] := by
  have key : ∀ (rest added : List (List Nat)) (ps : PSet), PSet.Inv ps added →
      (∀ s ∈ rest, (∀ b ∈ s, b < 4) ∧ s.length < 2 ^ 32) →
      ∃ ps', rest.foldl (fun acc s => acc.bind (PSet.add · s)) (some ps) = some ps' ∧ PSet.Inv ps' (added ++ rest) := by
    intro rest
    induction rest with
    | nil => intro added ps h _; exact ⟨ps, rfl, by simpa using h⟩
    | cons s rest ih =>
      intro added ps h hr
      obtain ⟨ps1, e1, i1⟩ := PSet.add_spec ps added h s (hr s (by simp)).1 (hr s (by simp)).2
      obtain ⟨ps2, e2, i2⟩ := ih (added ++ [s]) ps1 i1 (fun t ht => hr t (by simp [ht]))
      exact ⟨ps2, by simp only [List.foldl_cons, Option.bind_some, e1]; exact e2, by simpa using i2⟩
  obtain ⟨ps, e, i⟩ := key seqs [] PSet.new PSet.inv_new hv
  refine ⟨ps, e, fun j hj => ?_⟩
  have := PSet.get_spec ps ([] ++ seqs) i j (by simpa using hj)
  simpa using this

/-- non-vacuity: a mixed history that crosses a block boundary by both paths -/
example : okAll [.extend (List.replicate 31 1), .push 2, .extend [3, 0, 1], .set 32 2, .pushBytes [0xE4] 4, .rc] (toSeq new) := by
  simp [okAll, Op.ok, runSpec, toSeq_new]

end DnaStr
