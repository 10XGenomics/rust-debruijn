import Dbg.Lemmas.MspIntervals
/-! # C07 — Minimizer partition covers every k-mer exactly once with a true minimizer

Property theorem for the model `Msp.scan` of `Scanner::scan` (msp.rs 194-276).
`HoldsC07` (Spec/C07.lean) is the statement, decidable; its Boolean form `holdsC07` is what the
driver evaluates on the implementation's answers. -/
namespace Msp

theorem mkIntervals_spec (seq : Array Compress.Base) (sc : Nat → Nat) (k p d m n : Nat)
    (hp : 1 ≤ p) (hd : d + p = k) (hm : m + 1 = n + k) (hn : 1 ≤ n) (hm32 : m < 2 ^ 32) (h16 : 2 * k ≤ 65535 + p)
    (L : List (Nat × MinPos)) : FwdOK sc d n L →
      (∀ iv ∈ mkIntervals seq k p m L, IvValid seq sc k p iv) ∧
      ChainValid sc k p m (mkIntervals seq k p m L) ∧
      (mkIntervals seq k p m L).head?.map (·.start) = L.head?.map (·.1) := by
  fun_induction mkIntervals seq k p m L with
  | case1 => exact fun h => h.elim
  | case2 s mn =>
    intro (h : IvOK sc d s (n - 1) mn)
    have hm' : m = n - 1 + k := (Nat.sub_eq_of_eq_add hm.symm).symm.trans (Nat.sub_add_comm hn)
    have hle : s ≤ m := hm' ▸ Nat.le_add_right_of_le h.hse
    have hlen : m - s + s = n - 1 + k := by rw [Nat.sub_add_cancel hle, hm']
    obtain ⟨e1, e2, e3⟩ := narrow_id h hd hlen (Nat.le_of_eq hm'.symm) hm32 h16
    rw [e1, e2, e3]
    refine ⟨fun iv hiv => ?_, Nat.add_sub_of_le hle, rfl⟩
    rw [List.mem_singleton] at hiv
    subst hiv
    exact ivValid_of_IvOK seq hd h hlen
  | case3 s mn s' mn' rest ih =>
    intro ⟨h1, h2, h3, h4⟩
    obtain ⟨ih1, ih2, ih3⟩ := ih h4
    have hs' := FwdOK.start_le h4
    have hle : s ≤ s' + k - 1 := Nat.le_sub_one_of_lt (Nat.lt_add_right k h2)
    have hlen : s' + k - 1 - s + s = s' - 1 + k := by
      rw [Nat.sub_add_cancel hle, Nat.sub_add_comm (Nat.lt_of_le_of_lt (Nat.zero_le s) h2)]
    obtain ⟨e1, e2, e3⟩ := narrow_id h1 hd hlen (by omega) hm32 h16
    rw [e1, e2, e3]
    refine ⟨fun iv hiv => ?_, (chainValid_cons _ ih3).mpr ⟨h2, (Nat.add_sub_of_le hle).symm, ?_, ih2⟩, rfl⟩
    · rcases List.mem_cons.mp hiv with rfl | hiv
      · exact ivValid_of_IvOK seq hd h1 hlen
      · exact ih1 iv hiv
    · refine h3.imp id fun h3 => ?_
      rw [← hd, ← Nat.add_assoc, Nat.add_sub_cancel, ← h1.hval]
      exact h3

/-- **C07.** For every sequence, every score function, `1 ≤ p ≤ k ≤ |seq| < 2^32` and
    `2k - p ≤ 65535` (the guard forced by the `u16` length field, finding D7), the scan returns
    intervals that satisfy every clause of the property. -/
theorem C07_scan_valid (seq : Array Compress.Base) (score : Compress.Seq → Nat) (k p : Nat)
    (h₁ : 1 ≤ p) (h₂ : p ≤ k) (h₃ : k ≤ seq.size) (h₄ : seq.size < 2 ^ 32) (h₅ : 2 * k - p ≤ 65535)
    (h₆ : ∀ w, score w < 2 ^ 64) :
    ∃ ivs, scan seq score k p = some ivs ∧ HoldsC07 seq score k p ivs := by
  unfold scan
  have h₄' : seq.size < 2 ^ Gen.mspMaxLenLog := h₄
  have hsc : (fun q => score (window seq p q) % 2 ^ Gen.mspScoreBits) = fun q => score (window seq p q) := by
    funext q; exact Nat.mod_eq_of_lt (h₆ _)
  simp only [h₃, h₄', h₂, and_self, if_true, hsc]
  refine ⟨_, rfl, ?_⟩
  have hf := minPositions_fwd (fun q => score (window seq p q)) (k - p) (seq.size - k + 1) (Nat.le_add_left 1 _)
  have := mkIntervals_spec seq (fun q => score (window seq p q)) k p (k - p) seq.size (seq.size - k + 1) h₁
    (Nat.sub_add_cancel h₂) (by rw [Nat.add_right_comm, Nat.sub_add_cancel h₃]) (Nat.le_add_left 1 _) h₄
    (Nat.sub_le_iff_le_add.mp h₅) _ hf.1
  exact ⟨by rw [this.2.2]; exact hf.2, this.1, this.2.1⟩

/-- the Bool form that the driver evaluates -/
theorem C07_scan_holds (seq : Array Compress.Base) (score : Compress.Seq → Nat) (k p : Nat)
    (h₁ : 1 ≤ p) (h₂ : p ≤ k) (h₃ : k ≤ seq.size) (h₄ : seq.size < 2 ^ 32) (h₅ : 2 * k - p ≤ 65535)
    (h₆ : ∀ w, score w < 2 ^ 64) :
    ∃ ivs, scan seq score k p = some ivs ∧ holdsC07 seq score k p ivs = true := by
  obtain ⟨ivs, h, hh⟩ := C07_scan_valid seq score k p h₁ h₂ h₃ h₄ h₅ h₆
  exact ⟨ivs, h, by simp [holdsC07, hh]⟩

/-- the assertions of `scan` are exactly the guard: outside it the scan refuses -/
theorem C07_scan_guard (seq : Array Compress.Base) (score : Compress.Seq → Nat) (k p : Nat) :
    (scan seq score k p).isSome ↔ (k ≤ seq.size ∧ seq.size < 2 ^ 32 ∧ p ≤ k) := by
  simp only [scan, Gen.mspMaxLenLog]
  by_cases h : k ≤ seq.size ∧ seq.size < 2 ^ 32 ∧ p ≤ k <;> simp [h]

def kmerStarts (k : Nat) (ivs : List Iv) : List Nat :=
  ivs.flatMap fun iv => List.range' iv.start (iv.len - k + 1)

theorem kmerStarts_cons (k : Nat) (iv : Iv) (l : List Iv) :
    kmerStarts k (iv :: l) = List.range' iv.start (iv.len - k + 1) ++ kmerStarts k l := List.flatMap_cons

theorem starts_tile (sc : Nat → Nat) (k p m : Nat) (hk : 1 ≤ k) (ivs : List Iv) :
    ChainValid sc k p m ivs → (∀ iv ∈ ivs, k ≤ iv.len) →
      ∀ a, ivs.head?.map (·.start) = some a → ∃ c, kmerStarts k ivs = List.range' a c ∧ a + c + k = m + 1 := by
  fun_induction ChainValid sc k p m ivs with
  | case1 => exact fun h => h.elim
  | case2 iv =>
    intro (hc : iv.start + iv.len = m) hl a ha
    cases ha
    have := hl iv (List.mem_singleton_self iv)
    exact ⟨iv.len - k + 1, List.append_nil _, (by omega : iv.start + (iv.len - k + 1) + k = m + 1)⟩
  | case3 iv iv' rest ih =>
    intro ⟨_, c2, _, c4⟩ hl a ha
    cases ha
    have h1 := hl iv (List.mem_cons_self ..)
    obtain ⟨c', ihe, ihc⟩ := ih c4 (fun x hx => hl x (List.mem_cons_of_mem _ hx)) iv'.start rfl
    -- the next interval starts where the k-mer starts of this one end
    have e1 : iv'.start = iv.start + (iv.len - k + 1) := by omega
    refine ⟨iv.len - k + 1 + c', ?_, ?_⟩
    · rw [kmerStarts_cons, ihe, e1, List.range'_append_1]
    · rw [← Nat.add_assoc, ← e1]; exact ihc

/-- Corollary of C07: the k-mer starts covered by the intervals are exactly `0, 1, …, m-k`, each once. -/
theorem C07_every_kmer_once (seq : Array Compress.Base) (score : Compress.Seq → Nat) (k p : Nat)
    (h₁ : 1 ≤ p) (h₂ : p ≤ k) (h₃ : k ≤ seq.size) (h₄ : seq.size < 2 ^ 32) (h₅ : 2 * k - p ≤ 65535)
    (h₆ : ∀ w, score w < 2 ^ 64) :
    ∃ ivs, scan seq score k p = some ivs ∧ kmerStarts k ivs = List.range (seq.size - k + 1) := by
  obtain ⟨ivs, h, hh⟩ := C07_scan_valid seq score k p h₁ h₂ h₃ h₄ h₅ h₆
  refine ⟨ivs, h, ?_⟩
  obtain ⟨c, hs, hc⟩ := starts_tile _ k p seq.size (by omega) ivs hh.2.2 (fun iv hiv => (hh.2.1 iv hiv).1) 0 hh.1
  rw [hs, List.range_eq_range', ← Nat.sub_add_comm h₃, ← hc, Nat.add_sub_cancel, Nat.zero_add]

/-- the hypotheses are satisfiable and the theorem says something on a concrete input -/
example : holdsC07 #[0,1,2,3,0,0,1,3,2,2,1] (fun w => Compress.rank w % 3) 5 2
    ((scan #[0,1,2,3,0,0,1,3,2,2,1] (fun w => Compress.rank w % 3) 5 2).getD []) = true := by decide +kernel

/-- D7 (known finding): without the `u16` guard the reported length is truncated. A witness needs a sequence of at
    least 65 536 bases, so it is evaluated by the driver (`scan` request of the known-finding replay), not here. -/
example : (70000 : Nat) % lenMod = 4464 := by decide

end Msp
