import Dbg.Lemmas.KmerRc
import Dbg.Lemmas.KmerSlice
import Dbg.Lemmas.KmerMore
import Dbg.Lemmas.KmerCount
/-! # C10 — Packed k-mers behave as length-K strings

`Kmer.toSeq c s` is the string read from storage `s` by the model of `get`; every theorem says that an
operation of the packed model (`Dbg/Model/Kmer.lean`, generic in storage width and K) commutes with the
corresponding operation on plain lists (`Dbg/Spec/C10.lean`).  All theorems hold for every well-formed
configuration (`1 ≤ K`, `2K ≤ w`, full-width types use all lanes), hence for all shipped types
(`shipped_wf`, decided on the table regenerated from kmer.rs). -/
namespace Kmer

instance (c : Cfg) : Decidable c.WF :=
  if h : 1 ≤ c.K ∧ 2 * c.K ≤ c.w ∧ (c.var = false → c.w = 2 * c.K) then isTrue ⟨h.1, h.2.1, h.2.2⟩
  else isFalse fun hc => h ⟨hc.hK, hc.hw, hc.hint⟩

/-- every k-mer type of the table (the 18 aliases and seven further `VarIntKmer` instances, among them `<u8,K4>`, the one
    `VarIntKmer` that fills its storage) is a well-formed configuration with a storage width for which a
    `reverse_by_twos` ladder exists -/
theorem shipped_wf : ∀ e ∈ Gen.shipped, (Cfg.mk e.2.1 e.2.2.1 e.2.2.2).WF ∧ e.2.1 ∈ [8, 16, 32, 64, 128] := by decide

theorem shipped_count : Gen.shipped.length = 25 := by decide

/-- C10 (write a base): `set_mut` refines `List.set` -/
theorem C10_set (c : Cfg) (hc : c.WF) (s : St c) (pos v : Nat) (hp : pos < c.K) (hv : v < 4) :
    toSeq c (setMut c s pos v) = (toSeq c s).set pos v := toSeq_setMut hc s pos v hp hv

/-- C10 (read a base): `get` reads the `pos`-th entry of the string -/
theorem C10_get (c : Cfg) (s : St c) (pos : Nat) (hp : pos < c.K) : (toSeq c s)[pos]? = some (get c s pos) := by
  simp [toSeq, hp]

/-- C10 (shift a base in from the right) -/
theorem C10_extendRight (c : Cfg) (hc : c.WF) (s : St c) (v : Nat) (hv : v < 4) :
    toSeq c (extendRight c s v) = KSpec.extendRight (toSeq c s) v ∧ Inv c (extendRight c s v) :=
  ⟨toSeq_extendRight hc s v hv, inv_extendRight hc s v hv⟩

/-- C10 (shift a base in from the left); needs the representation invariant on the input -/
theorem C10_extendLeft (c : Cfg) (hc : c.WF) (s : St c) (v : Nat) (hv : v < 4) (hs : Inv c s) :
    toSeq c (extendLeft c s v) = KSpec.extendLeft (toSeq c s) v ∧ Inv c (extendLeft c s v) :=
  ⟨toSeq_extendLeft hc s v hv, inv_extendLeft hc s v hv hs⟩

theorem C10_set_inv (c : Cfg) (hc : c.WF) (s : St c) (pos v : Nat) (hp : pos < c.K) (hv : v < 4) (hs : Inv c s) :
    Inv c (setMut c s pos v) := inv_setMut s pos v hp hv hs

/-- C10 (construction from bytes): `from_bytes` spells the first K bytes -/
theorem C10_fromBytes (c : Cfg) (hc : c.WF) (bytes : List Nat) (hl : c.K ≤ bytes.length) (hb : ∀ b ∈ bytes, b < 4) :
    ∃ s, fromBytes c bytes = some s ∧ toSeq c s = bytes.take c.K ∧ Inv c s :=
  ⟨_, fromBytes_eq_buildK bytes hl, buildK_spec hc bytes hl hb⟩

/-- C10 (reverse complement): `rc` refines reverse complement of the string and re-establishes the invariant,
    for every storage width that has a `reverse_by_twos` ladder (masks and shifts extracted from kmer.rs) -/
theorem C10_rc (c : Cfg) (hc : c.WF) (hw : c.w ∈ [8, 16, 32, 64, 128]) (s : St c) :
    toSeq c (rc c s) = KSpec.rc (toSeq c s) ∧ Inv c (rc c s) :=
  ⟨toSeq_rc hc hw s, inv_rc hc hw s⟩

/-- C10 (packed run): `set_slice_mut(pos, n, value)` replaces exactly bases `pos..pos+n` by the run packed into the
    top `2n` bits of `value` (base j = bits 63-2j, 62-2j); every other bit of `value` is irrelevant; for all
    `1 ≤ n ≤ 32`, `pos + n ≤ K` -/
theorem C10_setSlice (c : Cfg) (hc : c.WF) (s : St c) (pos n : Nat) (value : BitVec 64)
    (hn1 : 1 ≤ n) (hn32 : n ≤ 32) (hpn : pos + n ≤ c.K) :
    toSeq c (setSliceMut c s pos n value) = KSpec.setSlice (toSeq c s) pos n value ∧
    (Inv c s → Inv c (setSliceMut c s pos n value)) :=
  ⟨toSeq_setSliceMut hc s pos n value hn1 hn32 hpn, inv_setSliceMut hc s pos n value hn1 hn32 hpn⟩

/-- C10 (rank): under the invariant `to_u64` is the base-4 value of the string (K ≤ 32 so that it fits) -/
theorem C10_toU64 (c : Cfg) (hc : c.WF) (hK : c.K ≤ 32) (s : St c) (hs : Inv c s) :
    toU64 c s = some (Lex.val (toSeq c s)) := by
  have h1 := toNat_lt_of_inv s hs
  have h2 : (4 : Nat) ^ c.K ≤ 4 ^ 32 := Nat.pow_le_pow_right (by decide) hK
  unfold toU64
  rw [if_pos (by have : (4:Nat) ^ 32 = 2 ^ 64 := by decide
                 omega), toNat_eq_val hc s hs]

/-- C10 (construction from a rank): for ranks below 4^K, `from_u64` spells the K base-4 digits of the rank -/
theorem C10_fromU64 (c : Cfg) (hc : c.WF) (v : Nat) (hv : v < 4 ^ c.K) :
    ∃ s, fromU64 c v = some s ∧ toSeq c s = KSpec.digits4 c.K v ∧ Inv c s := fromU64_spec hc v hv

theorem C10_u64_roundtrip (c : Cfg) (hc : c.WF) (hK : c.K ≤ 32) (v : Nat) (hv : v < 4 ^ c.K) :
    ∃ s, fromU64 c v = some s ∧ toU64 c s = some v := by
  obtain ⟨s, h1, h2, h3⟩ := fromU64_spec hc v hv
  refine ⟨s, h1, ?_⟩
  rw [C10_toU64 c hc hK s h3, h2, val_digits4 c.K v hv]

/-- C10 (text rendering) -/
theorem C10_toString (c : Cfg) (hc : c.WF) (s : St c) : toStr c s = KSpec.toText (toSeq c s) := toStr_spec hc s

/-- C10 (construction from ASCII): `from_ascii` is `from_bytes` of the bytewise conversion -/
theorem C10_fromAscii (c : Cfg) (hc : c.WF) (bytes : List Nat) (hl : c.K ≤ bytes.length) :
    ∃ s, fromAscii c bytes = some s ∧ toSeq c s = (bytes.take c.K).map baseToBits ∧ Inv c s := by
  rw [fromAscii_eq]
  have hb : ∀ b ∈ bytes.map baseToBits, b < 4 := by
    intro b hb
    obtain ⟨ch, _, rfl⟩ := List.mem_map.mp hb
    exact baseToBits_lt ch
  obtain ⟨s, h1, h2, h3⟩ := C10_fromBytes c hc (bytes.map baseToBits) (by simpa using hl) hb
  exact ⟨s, h1, by rw [h2, List.map_take], h3⟩

/-- C10 (bulk construction): `kmers_from_bytes` yields exactly the n-K+1 windows in order (none if n < K) -/
theorem C10_kmersFromBytes (c : Cfg) (hc : c.WF) (str : List Nat) (hb : ∀ b ∈ str, b < 4) :
    (kmersFromBytes c str).map (toSeq c) = KSpec.windows c.K str := kmersFromBytes_spec hc str hb

/-- C10 (Hamming distance): the number of positions at which the two strings differ -/
theorem C10_hamming (c : Cfg) (hc : c.WF) (hw : c.w ∈ [8, 16, 32, 64, 128]) (s t : St c) (hs : Inv c s) (ht : Inv c t) :
    hammingDist c s t = KSpec.hamming (toSeq c s) (toSeq c t) := hammingDist_spec hc hw s t hs ht

/-- C10 (AT / GC counts); the unused bits of partial-width types are masked, so no invariant is needed -/
theorem C10_atCount (c : Cfg) (hc : c.WF) (hw : c.w ∈ [8, 16, 32, 64, 128]) (s : St c) :
    atCount c s = KSpec.atCount (toSeq c s) := atCount_spec hc hw s
theorem C10_gcCount (c : Cfg) (hc : c.WF) (hw : c.w ∈ [8, 16, 32, 64, 128]) (s : St c) :
    gcCount c s = KSpec.gcCount (toSeq c s) := gcCount_spec hc hw s

/-- C10 (bulk construction from ASCII) -/
theorem C10_kmersFromAscii (c : Cfg) (hc : c.WF) (str : List Nat) (hb : ∀ b ∈ str.map baseToBits, b < 4) :
    (kmersFromAscii c str).map (toSeq c) = KSpec.windows c.K (str.map baseToBits) := kmersFromBytes_spec hc _ hb

/-- the hypotheses are satisfiable: Kmer5 (u16, partial width) -/
example : toSeq ⟨16, 5, true⟩ (extendRight ⟨16, 5, true⟩ 0x1B#16 2) = KSpec.extendRight (toSeq ⟨16, 5, true⟩ 0x1B#16) 2 := by decide

end Kmer
