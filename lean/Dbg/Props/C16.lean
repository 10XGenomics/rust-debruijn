import Dbg.Lemmas.Avx2Proofs
/-! # C16 — ASCII ingestion is total and path-independent

Table theorems (every one of the 256 byte values; each table regenerated from the `match` arms of lib.rs is compared, as
a list, with the function it tabulates); lane theorems about the vector kernels, each intrinsic transcribed from Intel's
pseudo-code (`C16_convert`, `C16_pack`); hence the vector path of `from_acgt_bytes` (whole 32-byte chunks pushed as
blocks, the tail through `extend`, `len` set at the end) and the scalar path produce the *same value* for every byte
string (`C16_paths_agree`). -/
namespace Avx2

def isValid (c : Nat) : Bool := Gen.isValidBase.getD c 0 == 1
def upper (c : Nat) : Nat := if 97 ≤ c ∧ c ≤ 122 then c - 32 else c

/-- `base_to_bits`: A/C/G/T in either case ↦ 0/1/2/3, every other byte ↦ 0 -/
theorem C16_baseToBits_table : ∀ c : Fin 256, baseToBits c.val = KSpec.asciiToBase c.val ∧ baseToBits c.val < 4 :=
  fun c => ⟨by rw [baseToBits_eq, if_pos c.isLt], baseToBits_lt c.val⟩

/-- `is_valid_base` holds exactly on the eight letters; `dna_only_base_to_bits` is `base_to_bits` there and `None` elsewhere -/
theorem C16_valid_table : ∀ c : Fin 256,
    (isValid c.val = (c.val ∈ [65, 67, 71, 84, 97, 99, 103, 116])) ∧
    (Gen.dnaOnlyBaseToBits.getD c.val 255 = if isValid c.val then baseToBits c.val else 255) := by
  intro c
  have hv : isValid c.val = decide (c.val ∈ [65, 67, 71, 84, 97, 99, 103, 116]) := isValidByte_eq c.val c.isLt
  constructor
  · rw [hv, decide_eq_true_eq]
  · rw [dnaOnly_table, getD_map_range, if_pos c.isLt, hv, baseToBits_eq, if_pos c.isLt]
    simp only [decide_eq_true_eq]

theorem render_asciiToBase (c : Nat) :
    DnaStr.bitsToAscii (KSpec.asciiToBase c) = (if c ∈ [65, 67, 71, 84, 97, 99, 103, 116] then upper c else 65) ∧
    DnaStr.bitsToBase (KSpec.asciiToBase c) = (if c ∈ [65, 67, 71, 84, 97, 99, 103, 116] then upper c else 65) := by
  by_cases h : c ∈ [65, 67, 71, 84, 97, 99, 103, 116]
  · simp only [if_pos h]
    simp only [List.mem_cons, List.not_mem_nil, or_false] at h
    rcases h with rfl | rfl | rfl | rfl | rfl | rfl | rfl | rfl <;> decide
  · simp only [if_neg h]
    simp only [List.mem_cons, List.not_mem_nil, or_false, not_or] at h
    have h0 : KSpec.asciiToBase c = 0 := by unfold KSpec.asciiToBase; simp only [h, or_self, if_false]
    rw [h0]; decide

/-- rendering back: the upper-cased letter for ACGT, 'A' for everything else -/
theorem C16_render_back : ∀ c : Fin 256,
    DnaStr.bitsToAscii (baseToBits c.val) = (if isValid c.val then upper c.val else 65) ∧
    DnaStr.bitsToBase (baseToBits c.val) = (if isValid c.val then upper c.val else 65) := by
  intro c
  rw [(C16_baseToBits_table c).1, show isValid c.val = isValidByte c.val from rfl, isValidByte_eq c.val c.isLt]
  simp only [decide_eq_true_eq]
  exact render_asciiToBase c.val

/-- the scalar path is `extend` over the bytewise conversion (definitionally), and the str constructor on
    code points below 256 is the same function -/
theorem C16_scalar_is_bytewise (bytes : List Nat) :
    fromAcgtBytesScalar bytes = DnaStr.fromBytes (bytes.map baseToBits) := rfl

theorem C16_str_agrees (cs : List Nat) (h : ∀ c ∈ cs, c < 256) : fromDnaString cs = fromAcgtBytesScalar cs := by
  unfold fromDnaString fromAcgtBytesScalar
  congr 1
  apply List.map_congr_left
  intro c hc; rw [Nat.mod_eq_of_lt (h c hc)]

/-- `c as u8` aliasing outside Latin-1 (recorded, not a violation: C16 quantifies over ASCII text) -/
example : baseToBits (0x141 % 256) = 0 ∧ isValid (0x141 % 256) = true := by decide

/-- **C16 (convert_bases)**: for any 32 bytes, lane by lane the scalar table; the flag = "all ACGT" -/
theorem C16_convert (input : V) (hv : IsVec input) :
    (convertBases input).1 = input.map baseToBits ∧ (convertBases input).2 = input.all isValidByte := convert_spec input hv

/-- **C16 (pack_32_bases)**: byte `i` (mod 4) becomes base `i` of the block -/
theorem C16_pack (bases : V) (hv : IsVec bases) :
    Block64.blockSeq (BitVec.ofNat 64 (pack32Bases bases)) = bases.map (· % 4) ∧
    pack32Bases bases = sumTo 32 (fun m => (byte bases (31 - m) % 4) * 4 ^ m) := ⟨pack_block bases hv, pack_sum bases hv⟩

/-- **C16 (both paths)**: each path yields a well-formed string standing for the bytewise conversion -/
theorem C16_paths (bytes : List Nat) (hb : ∀ b ∈ bytes, b < 256) :
    (∃ d, fromAcgtBytesVec bytes = some d ∧ DnaStr.Inv d ∧ DnaStr.toSeq d = bytes.map baseToBits) ∧
    (∃ d, fromAcgtBytesScalar bytes = some d ∧ DnaStr.Inv d ∧ DnaStr.toSeq d = bytes.map baseToBits) := by
  constructor
  · -- the loop leaves the conversions followed by zeros in `k = ⌈len/32⌉` blocks; `len` is set at the end
    obtain ⟨d', k, e, sl, h1, h2, fl⟩ := vecLoop_spec DnaStr.new bytes hb rfl
    have sl' : d'.storage.length = k := sl.trans (Nat.zero_add k)
    unfold fromAcgtBytesVec
    rw [e]
    exact ⟨_, rfl, DnaStr.inv_of_flat ⟨d'.storage, bytes.length⟩ _ (List.length_map _)
      (by show d'.storage.length = (bytes.length + 31) / 32; omega) (by rw [sl']; exact fl)⟩
  · obtain ⟨d, e, i, s, _⟩ := DnaStr.fromBytes_spec (bytes.map baseToBits) (map_baseToBits_lt bytes)
    exact ⟨d, e, i, s⟩

/-- **C16 (path independence)**: for every byte string — every length, every byte value in every
    lane — the vector path and the scalar path return the same `(storage, len)` -/
theorem C16_paths_agree (bytes : List Nat) (hb : ∀ b ∈ bytes, b < 256) : fromAcgtBytesVec bytes = fromAcgtBytesScalar bytes := by
  obtain ⟨⟨d1, e1, i1, s1⟩, d2, e2, i2, s2⟩ := C16_paths bytes hb
  rw [e1, e2, DnaStr.repr_inj d1 d2 i1 i2 (by rw [s1, s2])]

/-- **C16 (rendering back)**: the upper-cased input with every non-ACGT byte replaced by `A` -/
theorem C16_render (bytes : List Nat) (hb : ∀ b ∈ bytes, b < 256) :
    ∃ d, fromAcgtBytesVec bytes = some d ∧
      DnaStr.toAsciiVec d = some (bytes.map fun c => if isValid c then upper c else 65) ∧
      DnaStr.display d = some (bytes.map fun c => if isValid c then upper c else 65) := by
  obtain ⟨d, e, i, s⟩ := (C16_paths bytes hb).1
  refine ⟨d, e, ?_, ?_⟩
  · rw [DnaStr.toAsciiVec_spec d i, s, List.map_map]
    congr 1
    apply List.map_congr_left
    intro c hc
    exact (C16_render_back ⟨c, hb c hc⟩).1
  · rw [DnaStr.display_spec d i, s, List.map_map]
    congr 1
    apply List.map_congr_left
    intro c hc
    exact (C16_render_back ⟨c, hb c hc⟩).2

/-- **C16 (strict constructor)**: exactly the maximal ACGT runs -/
theorem C16_strict_runs (g0 : List Nat) (segs : List (Nat × List Nat)) (h0 : ∀ c ∈ g0, strictOk c = true)
    (hs : ∀ s ∈ segs, strictOk s.1 = false ∧ ∀ c ∈ s.2, strictOk c = true) :
    fromDnaOnlyString (g0 ++ segs.flatMap (fun s => s.1 :: s.2)) =
      ((g0 :: segs.map (·.2)).filter (fun g => !g.isEmpty)).map (·.map strictBits) := strict_runs g0 segs h0 hs

/-- **C16 (hashed-N constructor)**, for any hasher: ACGT positions are the scalar table, every other
    position is `h(pos) % 4` — a valid base and a function of (read name, position) only -/
theorem C16_hashn (bytes : List Nat) (h : Nat → Nat) :
    ∃ d, fromAcgtBytesHashn bytes h = some d ∧ DnaStr.Inv d ∧
      DnaStr.toSeq d = bytes.zipIdx.map (fun cp => if Gen.hashnArms.getD cp.1 255 = 255 then h cp.2 % 4 else Gen.hashnArms.getD cp.1 255) :=
  hashn_spec bytes h

/-- the inline match of the hashed-N constructor is the strict table (ACGT in either case, nothing else) -/
theorem C16_hashn_arms : Gen.hashnArms = Gen.dnaOnlyBaseToBits := hashnArms_eq

/-- non-vacuity: 70 bytes (two vector blocks and a tail) with lower case and invalid bytes -/
example : ∀ b ∈ (List.replicate 33 97 ++ [0, 255, 78] ++ List.replicate 34 116), b < 256 := by
  intro b hb
  simp only [List.mem_append, List.mem_replicate, List.mem_cons, List.mem_nil_iff, or_false] at hb
  omega

end Avx2
