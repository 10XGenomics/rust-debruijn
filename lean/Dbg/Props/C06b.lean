import Dbg.Props.C06
import Dbg.Props.C04
/-! # C06 (continued) — the partition of every pipeline variant is invariant under reverse-complementing reads

From the table-level invariance (`C06_tables_agree`: same keys and payloads, same extension bytes except at
self-complementary keys), the fact that good links never read the byte of a self-complementary k-mer
(`krel_contentW`), and the characterisation of both pipelines as the classes of the key-level good-link relation of the
pruned table (`direct_classes`, `C04_sharded_eq_direct`). -/
namespace Pipeline
open Compress (Seq Exts Node Table SameParts Classes KConn ContentLeW TableAgree canonKeys)
open Filter (refTable plainRead removeCensoredExts)

theorem pruned_contentW {D : Type} {st : Bool} {T T' : Table D} (h : TableAgree st T T') :
    ContentLeW st (removeCensoredExts st T) (removeCensoredExts st T') := by
  intro ea hea
  obtain ⟨e0, h0m, hk, hd, h8, hx⟩ := Filter.pruned_of_mem st T ea hea
  obtain ⟨i, h0⟩ := List.mem_iff_getElem?.mp h0m
  obtain ⟨e0', h0', hk', hd', hex'⟩ := h.get i e0 h0
  obtain ⟨e1, h1m, hk1, hd1, h81, hx1⟩ := Compress.mem_pruned st T' e0' (List.mem_of_getElem? h0')
  refine ⟨e1, h1m, by rw [hk, hk1, hk'], by rw [hd, hd1, hd'], fun hp d => ?_⟩
  apply Compress.dirBits_ext _ _ h8 h81 d
  intro c
  rw [hx d c, hx1 d c, hk', h.keys, hex' (by rw [← hk]; exact hp)]

section
variable (K : Nat) (hK : 4 ≤ K) (reads : List (Seq × Exts × Nat)) (hb : Filter.NoBoundary reads) (st : Bool) (thr : Nat)
  (dsigma : List Nat) (hds : dsigma.Perm (List.range (refTable K reads (.count thr) st).length))
include hK hb hds

theorem direct_run :
    ∃ (Td : Table Filter.Payload) (outd : List (Node Filter.Payload × List Nat)),
      Td.Perm (removeCensoredExts st (refTable K reads (.count thr) st)) ∧
      Compress.WF Td K st ∧ Filter.ExtSym2 Td st ∧ Compress.Closed Td st ∧
      Compress.compressKmersC Td st (fun _ _ => true) sumReduce = some outd ∧
      direct K reads st thr dsigma = some ⟨K, outd.map (·.1), st⟩ := by
  have hK1 : 1 ≤ K := by omega
  obtain ⟨Td, hpd, hdir⟩ := direct_eq K hK reads st thr dsigma hds
  obtain ⟨wfd, hesd, hcl⟩ := Compress.pruned_listing (Filter.refTable_wf K hK1 reads hb _ st)
    (Filter.refTable_extSym2 K hK1 reads hb _ st) hpd
  obtain ⟨outd, hod, _, _⟩ :=
    Compress.compressKmersC_partition (join := fun _ _ => true) sumReduce wfd hesd.toExtSym (fun _ _ => rfl)
  exact ⟨Td, outd, hpd, wfd, hesd, hcl, hod, hdir outd hod⟩

theorem direct_pipeline_classes :
    ∃ gd, direct K reads st thr dsigma = some gd ∧
      Classes (KConn (removeCensoredExts st (refTable K reads (.count thr) st)) st (fun _ _ => true))
        ((removeCensoredExts st (refTable K reads (.count thr) st)).map (·.key)) (gd.nodes.map (canonKeys K st)) := by
  obtain ⟨Td, outd, hpd, wfd, hesd, _, hod, hdir⟩ := direct_run K hK reads hb st thr dsigma hds
  have wfRp := Filter.wf_removeCensored st _ K (Filter.refTable_wf K (by omega) reads hb (.count thr) st)
  obtain ⟨outd', hod', hcd⟩ := Compress.direct_classes (fun _ _ => true) (fun _ _ => rfl) sumReduce wfRp wfd hesd hpd
  rw [hod] at hod'; cases hod'
  exact ⟨_, hdir, hcd⟩

theorem direct_pipeline_kdata :
    ∃ gd, direct K reads st thr dsigma = some gd ∧
      ∀ n ∈ gd.nodes, Compress.KData (refTable K reads (.count thr) st) K st n ∧ (canonKeys K st n).Nodup ∧
        ∀ k ∈ canonKeys K st n, k ∈ (refTable K reads (.count thr) st).map (·.key) := by
  have hK1 : 1 ≤ K := by omega
  obtain ⟨Td, outd, hpd, _, _, _, hod, hdir⟩ := direct_run K hK reads hb st thr dsigma hds
  exact ⟨_, hdir, Compress.listing_kdata (Filter.refTable_wf K hK1 reads hb _ st) (Filter.refTable_extSym2 K hK1 reads hb _ st)
    (Compress.refTable_goodData K reads thr st) hpd outd hod⟩

variable (reads' : List (Seq × Exts × Nat)) (hb' : Filter.NoBoundary reads') (dsigma' : List Nat)
  (hds' : dsigma'.Perm (List.range (refTable K reads' (.count thr) st).length))
  (hag : TableAgree st (refTable K reads (.count thr) st) (refTable K reads' (.count thr) st))
include hb' hds' hag

/-- Two read sets whose tables agree (same keys and payloads, same extension bytes except at self-complementary keys)
    are assembled into the same partition, whatever the two hash orders: good links never read the byte of a
    self-complementary k-mer. -/
theorem direct_sameParts_of_agree :
    ∃ gd gd', direct K reads st thr dsigma = some gd ∧ direct K reads' st thr dsigma' = some gd' ∧
      SameParts K st gd.nodes gd'.nodes := by
  have hK1 : 1 ≤ K := by omega
  obtain ⟨gd, h1, c1⟩ := direct_pipeline_classes K hK reads hb st thr dsigma hds
  obtain ⟨gd', h2, c2⟩ := direct_pipeline_classes K hK reads' hb' st thr dsigma' hds'
  refine ⟨gd, gd', h1, h2, ?_⟩
  have wfRp := Filter.wf_removeCensored st _ K (Filter.refTable_wf K hK1 reads hb (.count thr) st)
  have wfRp' := Filter.wf_removeCensored st _ K (Filter.refTable_wf K hK1 reads' hb' (.count thr) st)
  exact Compress.sameParts_of_classes c1 (Compress.classes_transfer c2 (fun k1 k2 =>
    ⟨Compress.kconn_contentW _ wfRp (pruned_contentW hag.symm) k1 k2, Compress.kconn_contentW _ wfRp' (pruned_contentW hag) k1 k2⟩)
    (fun k => by rw [Compress.keys_pruned, Compress.keys_pruned, hag.keys]))

/-- and nodes of the two graphs that have the same k-mers have the same payload -/
theorem direct_payload_of_agree :
    ∃ gd gd', direct K reads st thr dsigma = some gd ∧ direct K reads' st thr dsigma' = some gd' ∧
      ∀ n ∈ gd.nodes, ∀ n' ∈ gd'.nodes, (∀ k, k ∈ canonKeys K st n ↔ k ∈ canonKeys K st n') → n.data = n'.data := by
  have hK1 : 1 ≤ K := by omega
  obtain ⟨gd, h1, c1⟩ := direct_pipeline_kdata K hK reads hb st thr dsigma hds
  obtain ⟨gd', h2, c2⟩ := direct_pipeline_kdata K hK reads' hb' st thr dsigma' hds'
  refine ⟨gd, gd', h1, h2, fun n hn n' hn' hk => ?_⟩
  have wfR := Filter.refTable_wf K hK1 reads hb (.count thr) st
  have wfR' := Filter.refTable_wf K hK1 reads' hb' (.count thr) st
  obtain ⟨kd, nd, hsub⟩ := c1 n hn
  obtain ⟨kd', nd', _⟩ := c2 n' hn'
  apply Compress.data_eq_of_same_keys n n' kd kd' nd nd' hk
  intro k hkn
  obtain ⟨e, he, hke⟩ := List.mem_map.mp (hsub k hkn)
  obtain ⟨i, hi⟩ := List.mem_iff_getElem?.mp he
  obtain ⟨e', hi', hk', hd', _⟩ := hag.get i e hi
  rw [← hke, Compress.cntK_of_mem wfR e he, ← hk', Compress.cntK_of_mem wfR' e' (List.mem_of_getElem? hi'), hd']

end

/-- **C06 (graph, one-pass pipeline, any hash orders).** Unstranded: replacing any subset of the reads by their reverse
    complements changes the partition of the k-mers into nodes of the one-pass pipeline neither for equal nor for
    different orders of the two hash maps. -/
theorem C06_direct_rc_invariant (K : Nat) (hK : 4 ≤ K) (reads : List (Seq × Exts × Nat)) (hb : Filter.NoBoundary reads)
    (thr : Nat) (m : Nat → Bool) (dsigma dsigma' : List Nat)
    (hds : dsigma.Perm (List.range (refTable K reads (.count thr) false).length))
    (hds' : dsigma'.Perm (List.range (refTable K (Filter.flipReads m 0 reads) (.count thr) false).length)) :
    ∃ gd gd', direct K reads false thr dsigma = some gd ∧ direct K (Filter.flipReads m 0 reads) false thr dsigma' = some gd' ∧
      SameParts K false gd.nodes gd'.nodes :=
  direct_sameParts_of_agree K hK reads hb false thr dsigma hds _ (Filter.flip_noBoundary m reads hb 0) dsigma' hds'
    (Compress.C06_tables_agree K (by omega) reads hb (.count thr) m)

/-- **C06 (payloads, one-pass pipeline).** Unstranded: nodes of the two runs (original reads / partly reverse-complemented
    reads, any hash orders) that have the same k-mers have the same payload. -/
theorem C06_direct_payload_rc_invariant (K : Nat) (hK : 4 ≤ K) (reads : List (Seq × Exts × Nat)) (hb : Filter.NoBoundary reads)
    (thr : Nat) (m : Nat → Bool) (dsigma dsigma' : List Nat)
    (hds : dsigma.Perm (List.range (refTable K reads (.count thr) false).length))
    (hds' : dsigma'.Perm (List.range (refTable K (Filter.flipReads m 0 reads) (.count thr) false).length)) :
    ∃ gd gd', direct K reads false thr dsigma = some gd ∧ direct K (Filter.flipReads m 0 reads) false thr dsigma' = some gd' ∧
      ∀ n ∈ gd.nodes, ∀ n' ∈ gd'.nodes, (∀ k, k ∈ canonKeys K false n ↔ k ∈ canonKeys K false n') → n.data = n'.data :=
  direct_payload_of_agree K hK reads hb false thr dsigma hds _ (Filter.flip_noBoundary m reads hb 0) dsigma' hds'
    (Compress.C06_tables_agree K (by omega) reads hb (.count thr) m)

def flipSeqs (m : Nat → Bool) (k : Nat) : List Seq → List Seq
  | [] => []
  | r :: rest => (if m k then Compress.rc r else r) :: flipSeqs m (k + 1) rest

theorem flipReads_plain (m : Nat → Bool) : ∀ (k : Nat) (l : List Seq),
    Filter.flipReads m k (l.map plainRead) = (flipSeqs m k l).map plainRead := by
  intro k l
  induction l generalizing k with
  | nil => rfl
  | cons a t ih =>
    simp only [List.map_cons, Filter.flipReads, flipSeqs]
    rw [ih (k + 1)]
    split <;> rfl

theorem flipSeqs_len (m : Nat → Bool) : ∀ (k : Nat) (l : List Seq) (b : Nat), (∀ r ∈ l, r.length < b) → ∀ r ∈ flipSeqs m k l, r.length < b := by
  intro k l
  induction l generalizing k with
  | nil => intro b _ r hr; cases hr
  | cons a t ih =>
    intro b h r hr
    unfold flipSeqs at hr
    rcases List.mem_cons.mp hr with rfl | hr'
    · split
      · rw [Compress.rc_length]; exact h a (List.mem_cons_self ..)
      · exact h a (List.mem_cons_self ..)
    · exact ih (k + 1) b (fun r' hr'' => h r' (List.mem_cons_of_mem _ hr'')) r hr'

/-- **C06 (graph, every pipeline variant).** Unstranded, every read set, every subset of reads reverse-complemented, every
    configuration inside `msp_sequence`'s contract, with or without sharded pruning, every hash order on either side:
    the sharded pipeline run on the original reads and run on the modified reads never panics and yields the same
    partition of the k-mers into nodes; the same holds for the one-pass pipeline (`C06_direct_rc_invariant`) and across
    the two (`C04_sharded_eq_direct`). -/
theorem C06_sharded_rc_invariant (K P : Nat) (reads : List Seq) (perm : Option (Array Nat)) (thr : Nat) (prune prune' : Bool)
    (m : Nat → Bool) (sigmas sigmas' : List (List Nat)) (dsigma dsigma' : List Nat) (cfg : ShardCfg K P reads perm)
    (hs : SigmasOK K P reads perm false thr sigmas dsigma)
    (hs' : SigmasOK K P (flipSeqs m 0 reads) perm false thr sigmas' dsigma') :
    ∃ gs gs', sharded K P reads perm false thr prune sigmas = some gs ∧
      sharded K P (flipSeqs m 0 reads) perm false thr prune' sigmas' = some gs' ∧ SameParts K false gs.nodes gs'.nodes := by
  have cfg' : ShardCfg K P (flipSeqs m 0 reads) perm :=
    ⟨cfg.p1, cfg.pk, cfg.k4, cfg.span, flipSeqs_len m 0 reads _ cfg.short, cfg.psize, cfg.pinj, cfg.pval⟩
  obtain ⟨gs, gd, h1, h2, e1, _⟩ := C04_sharded_eq_direct K P reads perm false thr prune sigmas dsigma cfg hs
  obtain ⟨gs', gd', h1', h2', e1', _⟩ := C04_sharded_eq_direct K P (flipSeqs m 0 reads) perm false thr prune' sigmas' dsigma' cfg' hs'
  have hnb : Filter.NoBoundary (reads.map plainRead) := by
    intro r hr; obtain ⟨r0, _, rfl⟩ := List.mem_map.mp hr; rfl
  obtain ⟨g1, g2, d1, d2, e2⟩ := C06_direct_rc_invariant K cfg.k4 (reads.map plainRead) hnb thr m dsigma dsigma' hs.directOK
    (by rw [flipReads_plain]; exact hs'.directOK)
  rw [flipReads_plain] at d2
  rw [h2] at d1; cases d1
  rw [h2'] at d2; cases d2
  exact ⟨gs, gs', h1, h1', Compress.sameParts_trans e1 (Compress.sameParts_trans e2 (Compress.sameParts_symm e1'))⟩

end Pipeline
