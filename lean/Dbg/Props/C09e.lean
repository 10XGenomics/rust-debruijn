import Dbg.Lemmas.IsCompressed2
/-! # C09 (continued) — the result of `compress_graph` passes the crate's own maximality check

`compress_graph` ends with `debug_assert!(dbg.is_compressed(compression) == None)`.  `is_compressed` is modelled
(`Graph.isCompressed`, tied by the `iscomp` requests) and shown to return `None` on the result of an uncensored
re-compression with the constantly-true join predicate (the crate's `SimpleCompress`; `ScmapCompress`, which joins only
equal payloads, is not covered): the assertion cannot fire there. -/
namespace CompressGraph
open Compress (Table Node WF compressKmersC)
open Graph (G isCompressed)
variable {D : Type}

/-- **C09 (the final assertion holds).** Build a graph from any well-formed reciprocal table with any symmetric join
    predicate (fully, partially or not at all compressed), then re-compress it without censoring: `compress_graph`
    returns a graph on which `is_compressed` finds no unbranched edge left to merge. -/
theorem C09_is_compressed_after_recompress {T : Table D} {K : Nat} {st : Bool} (wf : WF T K st) (hes2 : Filter.ExtSym2 T st)
    (reduce : D → D → D) (join0 : D → D → Bool) (hj0 : ∀ a b, join0 a b = join0 b a)
    (out : List (Node D × List Nat)) (ho : compressKmersC T st join0 reduce = some out) :
    ∃ g' paths, compressGraph st (⟨K, out.map (·.1), st⟩ : G D) (fun _ _ => true) reduce [] = some (g', paths) ∧
      isCompressed g' (fun _ _ => true) = none := by
  obtain ⟨port, members, pg, _⟩ := Compress.pgraph_of_compress reduce wf hes2.toExtSym hj0 out ho
  exact Compress.pgraph_recompress_isCompressed pg wf hes2 reduce

end CompressGraph
