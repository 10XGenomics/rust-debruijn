import Dbg.Props.C10
/-! # C11 — K-mer equality, order and hash are those of the string

`==`, `cmp` and `Hash` of both k-mer structs are `#[derive]`d on the `storage` integer (and a
`PhantomData`), i.e. they are functions of the storage word; the theorems below show that under the
representation invariant (which every value-producing operation preserves or establishes) the storage
word is a function of the string, and its integer order is the lexicographic order of strings. -/
namespace Kmer

/-- equal strings ⇔ equal storage words -/
theorem C11_eq_iff (c : Cfg) (hc : c.WF) (s t : St c) (hs : Inv c s) (ht : Inv c t) :
    s = t ↔ toSeq c s = toSeq c t :=
  ⟨fun h => by rw [h], toSeq_inj hc s t hs ht⟩

/-- integer order of storage words = lexicographic order A<C<G<T of the strings -/
theorem C11_lt_iff_lex (c : Cfg) (hc : c.WF) (s t : St c) (hs : Inv c s) (ht : Inv c t) :
    lt c s t = true ↔ toSeq c s < toSeq c t := by
  simp only [lt, decide_eq_true_eq]; exact lt_iff_lex hc s t hs ht

/-- value-producing operations of a history -/
inductive Op
  | extL (b : Nat) | extR (b : Nat) | rc | set (pos v : Nat) | minRc | extend (b : Nat) (right : Bool)
  | setSlice (pos n : Nat) (value : BitVec 64)

def Op.InRange (K : Nat) : Op → Prop
  | .extL b => b < 4 | .extR b => b < 4 | .rc => True | .set pos v => pos < K ∧ v < 4 | .minRc => True
  | .extend b _ => b < 4
  | .setSlice pos n _ => 1 ≤ n ∧ n ≤ 32 ∧ pos + n ≤ K

def run (c : Cfg) (s : St c) : Op → St c
  | .extL b => extendLeft c s b | .extR b => extendRight c s b | .rc => rc c s | .set pos v => setMut c s pos v
  | .minRc => minRc c s | .extend b r => extend c s b r
  | .setSlice pos n v => setSliceMut c s pos n v

def runSpec (l : List Nat) : Op → List Nat
  | .extL b => KSpec.extendLeft l b | .extR b => KSpec.extendRight l b | .rc => KSpec.rc l | .set pos v => l.set pos v
  | .minRc => KSpec.minRc l | .extend b r => if r then KSpec.extendRight l b else KSpec.extendLeft l b
  | .setSlice pos n v => KSpec.setSlice l pos n v

theorem step_ok (c : Cfg) (hc : c.WF) (hw : c.w ∈ [8, 16, 32, 64, 128]) (s : St c) (hs : Inv c s) (op : Op) (hr : op.InRange c.K) :
    Inv c (run c s op) ∧ toSeq c (run c s op) = runSpec (toSeq c s) op := by
  cases op with
  | extL b => exact ⟨inv_extendLeft hc s b hr hs, toSeq_extendLeft hc s b hr⟩
  | extR b => exact ⟨inv_extendRight hc s b hr, toSeq_extendRight hc s b hr⟩
  | rc => exact ⟨inv_rc hc hw s, toSeq_rc hc hw s⟩
  | set pos v => exact ⟨inv_setMut s pos v hr.1 hr.2 hs, toSeq_setMut hc s pos v hr.1 hr.2⟩
  | minRc =>
    have hlt := lt_iff_lex hc s (rc c s) hs (inv_rc hc hw s)
    simp only [run, runSpec, minRc, KSpec.minRc, KSpec.lexLt, lt, decide_eq_true_eq]
    rw [← toSeq_rc hc hw s]
    by_cases h : s.toNat < (rc c s).toNat
    · have := hlt.mp h; simp [h, this, hs]
    · have : ¬ toSeq c s < toSeq c (rc c s) := fun h' => h (hlt.mpr h')
      simp [h, this, inv_rc hc hw s]
  | setSlice pos n v =>
    exact ⟨inv_setSliceMut hc s pos n v hr.1 hr.2.1 hr.2.2 hs, toSeq_setSliceMut hc s pos n v hr.1 hr.2.1 hr.2.2⟩
  | extend b r =>
    cases r with
    | true => exact ⟨inv_extendRight hc s b hr, toSeq_extendRight hc s b hr⟩
    | false => exact ⟨inv_extendLeft hc s b hr hs, toSeq_extendLeft hc s b hr⟩

/-- **C11 (histories).** After any finite sequence of in-range value-producing operations the storage
    word satisfies the invariant and spells exactly the string obtained by the same operations on
    strings. -/
theorem C11_history (c : Cfg) (hc : c.WF) (hw : c.w ∈ [8, 16, 32, 64, 128]) (ops : List Op) (s : St c) (hs : Inv c s)
    (hr : ∀ op ∈ ops, op.InRange c.K) :
    Inv c (ops.foldl (run c) s) ∧ toSeq c (ops.foldl (run c) s) = ops.foldl runSpec (toSeq c s) := by
  induction ops generalizing s with
  | nil => exact ⟨hs, rfl⟩
  | cons op ops ih =>
    obtain ⟨h1, h2⟩ := step_ok c hc hw s hs op (hr op (by simp))
    have := ih (run c s op) h1 (fun o ho => hr o (by simp [ho]))
    simp only [List.foldl_cons]
    rw [← h2]; exact this

/-- **C11 (routes agree).** Two histories that spell the same string end in the same storage word:
    `==`, `cmp`, `Hash` (derived on storage), and therefore sort, dedup, group_by, binary search and
    perfect-hash lookup, cannot tell them apart. -/
theorem C11_routes_agree (c : Cfg) (hc : c.WF) (hw : c.w ∈ [8, 16, 32, 64, 128]) (ops₁ ops₂ : List Op) (s₁ s₂ : St c)
    (h₁ : Inv c s₁) (h₂ : Inv c s₂) (r₁ : ∀ op ∈ ops₁, op.InRange c.K) (r₂ : ∀ op ∈ ops₂, op.InRange c.K)
    (h : ops₁.foldl runSpec (toSeq c s₁) = ops₂.foldl runSpec (toSeq c s₂)) :
    ops₁.foldl (run c) s₁ = ops₂.foldl (run c) s₂ := by
  obtain ⟨i1, e1⟩ := C11_history c hc hw ops₁ s₁ h₁ r₁
  obtain ⟨i2, e2⟩ := C11_history c hc hw ops₂ s₂ h₂ r₂
  exact toSeq_inj hc _ _ i1 i2 (by rw [e1, e2, h])

/-- **C11 (constructors).** `from_bytes`, `from_u64` and `from_ascii` all establish the invariant, so whichever of
    them starts a history, two routes to the same string end in the same storage word (with `C11_routes_agree`);
    in particular `from_u64(rank s) == from_bytes(s) == from_ascii(text s)`. -/
theorem C11_constructors (c : Cfg) (hc : c.WF) (bytes : List Nat) (hl : bytes.length = c.K) (hb : ∀ b ∈ bytes, b < 4) :
    ∃ s, fromBytes c bytes = some s ∧ Inv c s ∧ toSeq c s = bytes ∧
      (∀ v, v < 4 ^ c.K → KSpec.digits4 c.K v = bytes → fromU64 c v = some s) ∧
      (∀ txt : List Nat, txt.length = c.K → txt.map baseToBits = bytes → fromAscii c txt = some s) := by
  obtain ⟨s, e, t, i⟩ := C10_fromBytes c hc bytes (by omega) hb
  have ht : toSeq c s = bytes := by rw [t, ← hl, List.take_length]
  refine ⟨s, e, i, ht, ?_, ?_⟩
  · intro v hv hd
    obtain ⟨s', e', t', i'⟩ := C10_fromU64 c hc v hv
    rw [e', toSeq_inj hc s' s i' i (by rw [t', hd, ht])]
  · intro txt hl' hm
    obtain ⟨s', e', t', i'⟩ := C10_fromAscii c hc txt (by omega)
    rw [e', toSeq_inj hc s' s i' i (by rw [t', ← hl', List.take_length, hm, ht])]

example : (Op.set 3 2).InRange 5 := ⟨by decide, by decide⟩

end Kmer
