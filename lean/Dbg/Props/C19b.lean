import Dbg.Props.C19
import Dbg.Lemmas.BoomCreate
/-! # C19 (continued) — exact lookups for every hash function a builder may produce

`Props/C19` shows that an index meeting the exact-lookup contract is unique.  Here the contract itself is derived for the
model of `BoomHashMap` (`Model/Boom`): whatever minimal perfect hash function the (serial or parallel) builder came up
with - it is a universally quantified parameter, arbitrary on k-mers that were never inserted - `get` answers exactly the
node whose terminal k-mer is the query and `None` otherwise, provided the slots hold the pairs (terminal k-mer of node i, i)
in the order that function dictates (`layoutOK`, `Slotted`).  Those two facts are what `create_map` establishes; they are
decidable, and the driver evaluates them on the layout of the real maps after every run (request field `layout=`), so the
part left to trust is `Mphf` itself: that its function is injective on the inserted keys with ranks below their number. -/
namespace Boom
open Compress (Seq Node)
open Walk (Dir)
open Graph

variable {D : Type}

theorem layoutOK_iff (g : G D) (side : Dir) (keys : List Seq) (vals : List Nat) :
    layoutOK g side keys vals = true ↔ keys.length = vals.length ∧
      (∀ (pos : Nat) (k : Seq) (v : Nat), keys[pos]? = some k → vals[pos]? = some v →
        ∃ nd, g.nodes[v]? = some nd ∧ termKmer g.K nd.seq side = k) ∧
      (∀ (i : Nat) (nd : Node D), g.nodes[i]? = some nd → ∃ pos : Nat, keys[pos]? = some (termKmer g.K nd.seq side) ∧ vals[pos]? = some i) := by
  simp only [layoutOK, Bool.and_eq_true, List.all_eq_true, List.mem_range, beq_iff_eq, and_assoc]
  refine and_congr_right fun hlen => and_congr ⟨fun h pos k v hk hv => ?_, fun h pos hpos => ?_⟩ ⟨fun h i nd hn => ?_, fun h i hi => ?_⟩
  · have := h pos (getElem?_lt hk)
    rw [hk, hv] at this
    cases hn : g.nodes[v]? with
    | none => simp [hn] at this
    | some nd => simp only [hn, beq_iff_eq] at this; exact ⟨nd, rfl, this⟩
  · obtain ⟨nd, h1, h2⟩ := h pos _ _ (List.getElem?_eq_getElem hpos) (List.getElem?_eq_getElem (hlen ▸ hpos))
    simp only [List.getElem?_eq_getElem hpos, List.getElem?_eq_getElem (hlen ▸ hpos), h1, h2, beq_self_eq_true]
  · have := h i (getElem?_lt hn)
    simp only [hn, List.any_eq_true, List.mem_range, Bool.and_eq_true, beq_iff_eq] at this
    obtain ⟨pos, _, h1, h2⟩ := this
    exact ⟨pos, h1, h2⟩
  · obtain ⟨pos, h1, h2⟩ := h i _ (List.getElem?_eq_getElem hi)
    simp only [List.getElem?_eq_getElem hi, List.any_eq_true, List.mem_range, Bool.and_eq_true, beq_iff_eq]
    exact ⟨pos, getElem?_lt h1, h1, h2⟩

/-- the index a pair of maps implements (`search_kmer`): left map for `Dir::Left`, right map for `Dir::Right`;
    a panic is mapped to `none` here and excluded separately by `get_no_panic` -/
def index (bl br : Map) (km : Seq) (side : Dir) : Option Nat :=
  match side with
  | .L => (bl.get km).join
  | .R => (br.get km).join

theorem get_no_panic (b : Map) (hr : b.InRange) (hl : b.keys.length = b.vals.length) (km : Seq) : (b.get km).isSome := by
  unfold Map.get
  cases h : b.tryHash km with
  | none => rfl
  | some pos =>
    have hp := hr km pos h
    have hk : b.keys[pos]? = some b.keys[pos] := List.getElem?_eq_getElem hp
    have hv : b.vals[pos]? = some (b.vals[pos]'(hl ▸ hp)) := List.getElem?_eq_getElem (hl ▸ hp)
    simp only [hk, hv]
    split <;> rfl

theorem get_exact (g : G D) (side : Dir) (b : Map) (hs : b.Slotted) (hl : layoutOK g side b.keys b.vals = true) :
    (∀ km i, (b.get km).join = some i → ∃ nd, g.nodes[i]? = some nd ∧ termKmer g.K nd.seq side = km) ∧
    (∀ km, (b.get km).join = none → ∀ nd ∈ g.nodes, termKmer g.K nd.seq side ≠ km) := by
  constructor
  · intro km i h
    unfold Map.get at h
    cases h1 : b.tryHash km with
    | none => simp [h1] at h
    | some pos =>
      simp only [h1] at h
      cases h2 : b.keys[pos]? with
      | none => simp [h2] at h
      | some hk =>
        simp only [h2] at h
        by_cases he : km = hk
        · subst he
          cases h3 : b.vals[pos]? with
          | none => simp [h3] at h
          | some v =>
            simp [h3] at h
            subst h
            exact ((layoutOK_iff g side b.keys b.vals).mp hl).2.1 pos km v h2 h3
        · simp [he] at h
  · intro km h nd hm he
    obtain ⟨i, hi⟩ := List.getElem?_of_mem hm
    obtain ⟨pos, p1, p2⟩ := ((layoutOK_iff g side b.keys b.vals).mp hl).2.2 i nd hi
    rw [he] at p1
    have := hs pos km p1
    unfold Map.get at h
    simp [this, p1, p2] at h

/-- **C19 (any hash function).** For every pair of maps whose slots hold the node ends in the order their own hash
    functions dictate - whichever functions those are - `search_kmer` meets the exact-lookup contract. -/
theorem C19_boom_exact (g : G D) (bl br : Map) (hsl : bl.Slotted) (hsr : br.Slotted)
    (hl : layoutOK g .L bl.keys bl.vals = true) (hr : layoutOK g .R br.keys br.vals = true) :
    ExactIndex g (index bl br) := by
  have L := get_exact g .L bl hsl hl
  have R := get_exact g .R br hsr hr
  constructor
  · intro km side i h
    cases side with
    | L => exact L.1 km i h
    | R => exact R.1 km i h
  · intro km side h
    cases side with
    | L => exact L.2 km h
    | R => exact R.2 km h

/-- **C19 (schedule independence, at the level of this crate).** Two finished graphs over the same nodes - one from
    `finish_serial`, one from `finish` under any thread count and schedule, each with its own hash functions and its own
    slot order - answer every link query identically, and identically to the model's list lookup. -/
theorem C19_builders_agree (g : G D) (hd : TermDistinct g) (bl₁ br₁ bl₂ br₂ : Map)
    (h₁ : bl₁.Slotted ∧ br₁.Slotted ∧ layoutOK g .L bl₁.keys bl₁.vals = true ∧ layoutOK g .R br₁.keys br₁.vals = true)
    (h₂ : bl₂.Slotted ∧ br₂.Slotted ∧ layoutOK g .L bl₂.keys bl₂.vals = true ∧ layoutOK g .R br₂.keys br₂.vals = true)
    (kmer : Seq) (dir : Dir) :
    findLinkWith g (index bl₁ br₁) kmer dir = findLinkWith g (index bl₂ br₂) kmer dir ∧
    findLinkWith g (index bl₁ br₁) kmer dir = findLink g kmer dir := by
  have e1 := C19_boom_exact g bl₁ br₁ h₁.1 h₁.2.1 h₁.2.2.1 h₁.2.2.2
  have e2 := C19_boom_exact g bl₂ br₂ h₂.1 h₂.2.1 h₂.2.2.1 h₂.2.2.2
  refine ⟨C19_queries_determined g hd _ _ e1 e2 kmer dir, ?_⟩
  rw [findLink_eq_with]
  exact C19_queries_determined g hd _ _ e1 (searchKmer_exact g) kmer dir

/-- the executable slot test is sound for the slots it saw: where `get_key_id` answered `pos` for `keys[pos]`, the hash
    function maps that key to that slot -/
theorem slots_of_keyIds (b : Map) (h : ∀ pos k, b.keys[pos]? = some k → b.getKeyId k = some (some pos)) :
    b.Slotted := by
  intro pos k hk
  have := h pos k hk
  unfold Map.getKeyId at this
  cases h1 : b.tryHash k with
  | none => simp [h1] at this
  | some p =>
    simp only [h1] at this
    cases h2 : b.keys[p]? with
    | none => simp [h2] at this
    | some hk2 =>
      simp only [h2] at this
      by_cases he : k = hk2
      · simp [he] at this; rw [this]
      · simp [he] at this

/-- non-vacuity: a two-node graph, a hash function that swaps the slots and answers slot 0 for every absent k-mer -/
example :
    let g : G Unit := ⟨2, [⟨[0, 1, 2], ⟨0⟩, ()⟩, ⟨[3, 3], ⟨0⟩, ()⟩], false⟩
    let b : Map := ⟨fun k => if k = [0, 1] then some 1 else some 0, [[3, 3], [0, 1]], [1, 0]⟩
    b.Slotted ∧ layoutOK g .L b.keys b.vals = true ∧ b.get [0, 1] = some (some 0) ∧ b.get [2, 2] = some none := by
  refine ⟨?_, by decide, by decide, by decide⟩
  intro pos k hk
  match pos, hk with
  | 0, hk => simp at hk; subst hk; decide
  | 1, hk => simp at hk; subst hk; decide
  | n + 2, hk => simp at hk

theorem range_getElem?_eq_some (n i v : Nat) : (List.range n)[i]? = some v ↔ i < n ∧ v = i := by
  by_cases h : i < n
  · rw [List.getElem?_range h]; constructor
    · intro e; exact ⟨h, (Option.some.inj e).symm⟩
    · rintro ⟨_, rfl⟩; rfl
  · rw [List.getElem?_eq_none (by simpa using h)]; constructor
    · intro e; cases e
    · rintro ⟨h', _⟩; exact absurd h' h

theorem layoutOK_of_perm (g : G D) (side : Dir) (keys : List Seq) (vals : List Nat) (hlen : keys.length = vals.length)
    (hp : (keys.zip vals).Perm ((endKeys g side).zip (List.range g.nodes.length))) :
    layoutOK g side keys vals = true := by
  -- the pairs `finish` hands over are exactly (terminal k-mer of node v, v)
  have hz : ∀ (k : Seq) (v : Nat), (k, v) ∈ (endKeys g side).zip (List.range g.nodes.length) ↔
      ∃ nd, g.nodes[v]? = some nd ∧ termKmer g.K nd.seq side = k := by
    intro k v
    simp only [List.mem_iff_getElem?, List.getElem?_zip_eq_some, endKeys, List.getElem?_map, Option.map_eq_some_iff,
      range_getElem?_eq_some]
    constructor
    · rintro ⟨i, ⟨nd, h1, h2⟩, _, rfl⟩; exact ⟨nd, h1, h2⟩
    · rintro ⟨nd, h1, h2⟩; exact ⟨v, ⟨nd, h1, h2⟩, getElem?_lt h1, rfl⟩
  have hmem : ∀ (k : Seq) (v : Nat), (∃ pos : Nat, keys[pos]? = some k ∧ vals[pos]? = some v) ↔ (k, v) ∈ keys.zip vals := by
    intro k v
    simp only [List.mem_iff_getElem?, List.getElem?_zip_eq_some]
  refine (layoutOK_iff g side keys vals).mpr ⟨hlen, fun pos k v hk hv => ?_, fun i nd hn => ?_⟩
  · exact (hz k v).mp (hp.mem_iff.mp ((hmem k v).mp ⟨pos, hk, hv⟩))
  · exact (hmem _ i).mpr (hp.mem_iff.mpr ((hz _ i).mpr ⟨nd, hn, rfl⟩))

/-- one of the two maps `finish` builds -/
theorem create_endKeys (g : G D) (side : Dir) (th : Seq → Option Nat) (hm : MPH th (endKeys g side)) :
    ∃ b, Map.create th (endKeys g side) (List.range g.nodes.length) = some b ∧ b.tryHash = th ∧ b.Slotted ∧
      layoutOK g side b.keys b.vals = true ∧ b.keys.length = b.vals.length ∧ b.keys.length = g.nodes.length := by
  obtain ⟨b, h1, h2, h3, h4, h5⟩ := create_spec th (endKeys g side) (List.range g.nodes.length) (by simp [endKeys]) hm
  refine ⟨b, h1, h2, h3, layoutOK_of_perm g side _ _ h5 h4, h5, ?_⟩
  have := h4.length_eq
  simp only [List.length_zip, endKeys, List.length_map, List.length_range] at this
  omega

/-- **C19 (`finish` / `finish_serial`, end to end above `Mphf`).** For every graph and every pair of functions that are
    minimal perfect hashes on the nodes' first / last k-mers - whatever they answer for other k-mers, whichever builder,
    thread count and schedule produced them - `create_map` returns (its loops terminate, nothing panics), and the maps it
    builds answer `search_kmer` exactly: the node whose terminal k-mer is the query, `None` when there is none. -/
theorem C19_finish_exact (g : G D) (thl thr : Seq → Option Nat)
    (hl : MPH thl (endKeys g .L)) (hr : MPH thr (endKeys g .R)) :
    ∃ bl br, Map.create thl (endKeys g .L) (List.range g.nodes.length) = some bl ∧
             Map.create thr (endKeys g .R) (List.range g.nodes.length) = some br ∧
             ExactIndex g (index bl br) := by
  obtain ⟨bl, a1, _, a3, a4, _⟩ := create_endKeys g .L thl hl
  obtain ⟨br, b1, _, b3, b4, _⟩ := create_endKeys g .R thr hr
  exact ⟨bl, br, a1, b1, C19_boom_exact g bl br a3 b3 a4 b4⟩

/-- a minimal perfect hash exists only on distinct keys, so `TermDistinct` is implied and the index is *the* lookup -/
theorem C19_finish_eq_search (g : G D) (thl thr : Seq → Option Nat)
    (hl : MPH thl (endKeys g .L)) (hr : MPH thr (endKeys g .R)) :
    ∃ bl br, Map.create thl (endKeys g .L) (List.range g.nodes.length) = some bl ∧
             Map.create thr (endKeys g .R) (List.range g.nodes.length) = some br ∧
             ∀ km side, index bl br km side = searchKmer g km side := by
  obtain ⟨bl, br, h1, h2, h3⟩ := C19_finish_exact g thl thr hl hr
  refine ⟨bl, br, h1, h2, C19_index_unique g ?_ _ h3⟩
  intro side i j ni nj hi hj he
  have key : ∀ (th : Seq → Option Nat), MPH th (endKeys g side) → i = j := by
    intro th hm
    have hnd : ((endKeys g side).map th).Nodup := List.pairwise_map.mpr hm.2
    apply (List.getElem?_inj (by simpa [endKeys] using getElem?_lt hi) hnd).mp
    simp only [endKeys, List.getElem?_map, hi, hj, Option.map_some, he]
  cases side with
  | L => exact key thl hl
  | R => exact key thr hr

/-- **C19 (no panic).** `index` maps the index panic of `self.keys[pos]` to "absent"; this theorem closes that gap: when the
    hash function's ranks stay below the number of nodes for *every* k-mer (what `Mphf::try_hash` returns is the rank of a set
    bit among the keys' bits), no lookup in the maps `finish` builds panics - so `C19_finish_eq_search` speaks about the
    answers the real `get` gives, for present and absent k-mers. -/
theorem C19_finish_no_panic (g : G D) (thl thr : Seq → Option Nat)
    (hl : MPH thl (endKeys g .L)) (hr : MPH thr (endKeys g .R))
    (rl : ∀ k pos, thl k = some pos → pos < g.nodes.length) (rr : ∀ k pos, thr k = some pos → pos < g.nodes.length) :
    ∃ bl br, Map.create thl (endKeys g .L) (List.range g.nodes.length) = some bl ∧
             Map.create thr (endKeys g .R) (List.range g.nodes.length) = some br ∧
             ∀ km, (bl.get km).isSome ∧ (br.get km).isSome := by
  obtain ⟨bl, a1, a2, _, _, a5, a6⟩ := create_endKeys g .L thl hl
  obtain ⟨br, b1, b2, _, _, b5, b6⟩ := create_endKeys g .R thr hr
  exact ⟨bl, br, a1, b1, fun km =>
    ⟨get_no_panic bl (fun k pos h => a6 ▸ rl k pos (a2 ▸ h)) a5 km, get_no_panic br (fun k pos h => b6 ▸ rr k pos (b2 ▸ h)) b5 km⟩⟩

/-- non-vacuity of `C19_finish_exact`: three nodes, a hash that sends their first k-mers to slots 2, 0, 1 and every
    other k-mer to slot 1; `create_map` runs to completion and puts the pairs where the hash says -/
example :
    let g : G Unit := ⟨2, [⟨[0, 1, 2], ⟨0⟩, ()⟩, ⟨[3, 3], ⟨0⟩, ()⟩, ⟨[2, 0, 0], ⟨0⟩, ()⟩], false⟩
    let th : Seq → Option Nat := fun k => if k = [0, 1] then some 2 else if k = [3, 3] then some 0 else some 1
    (Map.create th (endKeys g .L) (List.range 3)).map (fun b => (b.keys, b.vals)) = some ([[3, 3], [2, 0], [0, 1]], [1, 2, 0]) := by
  decide

end Boom
