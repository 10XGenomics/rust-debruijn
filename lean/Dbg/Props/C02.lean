import Dbg.Props.C01
/-! # C02 — Nodes are exactly the maximal unbranched paths

Two ids share a node of the model iff they are connected by links of `linkOf T` — the
availability-independent part of `try_extend_kmer`: sole extension on the leaving side, not a palindrome,
target present, sole extension on the facing side of the target, `join` accepted.  Reciprocity of `linkOf`
(`linkOf_sym`) is proved from `ExtSym`, symmetry of `join`, and canonical distinct keys. -/
namespace Compress
variable {D : Type}

/-- C02 (ids): same node ⇔ connected by good links -/
theorem C02_components {T : Table D} {K : Nat} {st : Bool} {join : D → D → Bool}
    (wf : WF T K st) (hes : ExtSym T st) (hj : ∀ a b, join a b = join b a) :
    let link := linkOf T st join
    let ns := Walk.compress link (List.range T.length) (List.range T.length)
    ∀ x y, x < T.length → (Walk.Conn link x y ↔ ∃ N ∈ ns, x ∈ N ∧ y ∈ N) :=
  (compress_components_concrete wf hes hj).2.2.1

theorem C02_link_sym {T : Table D} {K : Nat} {st : Bool} {join : D → D → Bool}
    (wf : WF T K st) (hes : ExtSym T st) (hj : ∀ a b, join a b = join b a) :
    Walk.Sym (linkOf T st join) := linkOf_sym wf hes hj

/-- **C02 (sequences).** Two table k-mers (ids `x`, `y`) have their canonical forms among the k-mers of the same node
    sequence produced by the model of `compress_kmers` iff they are connected by good links. -/
theorem C02_components_seq {T : Table D} {K : Nat} {st : Bool} {join : D → D → Bool} (reduce : D → D → D)
    (wf : WF T K st) (hes : ExtSym T st) (hj : ∀ a b, join a b = join b a) :
    ∃ out, compressKmersC T st join reduce = some out ∧
      ∀ x y, x < T.length → y < T.length →
        (Walk.Conn (linkOf T st join) x y ↔
          ∃ n ∈ out, keyOf T x ∈ (windowsOf K n.1.seq).map (fun w => (canonOf st w).1) ∧
                     keyOf T y ∈ (windowsOf K n.1.seq).map (fun w => (canonOf st w).1)) := by
  obtain ⟨out, h1, h2, h3⟩ := C01_nodes_are_id_paths (join := join) reduce wf hes
  refine ⟨out, h1, ?_⟩
  intro x y hx hy
  have hc := (compress_components_concrete wf hes hj).2.2.1 x y hx
  -- keys are distinct, so membership of a key in a node's key list is membership of the id in its id list
  have key_inj : ∀ (ids : List Nat) (z : Nat), z < T.length → (∀ i ∈ ids, i < T.length) →
      (keyOf T z ∈ ids.map (keyOf T) ↔ z ∈ ids) := by
    intro ids z hz hr
    constructor
    · intro hm
      obtain ⟨i, hi, he⟩ := List.mem_map.mp hm
      rw [← keyOf_inj wf i z (hr i hi) hz he]; exact hi
    · intro hm; exact List.mem_map.mpr ⟨z, hm, rfl⟩
  have hrange : ∀ n ∈ out, ∀ i ∈ n.2, i < T.length := by
    intro n hn i hi
    have hcov := (compress_components_concrete wf hes hj).2.1 i
    apply hcov.mp
    rw [← h2]
    exact List.mem_flatten.mpr ⟨n.2, List.mem_map.mpr ⟨n, hn, rfl⟩, hi⟩
  rw [hc]
  constructor
  · rintro ⟨N, hN, hxN, hyN⟩
    rw [← h2] at hN
    obtain ⟨n, hn, rfl⟩ := List.mem_map.mp hN
    refine ⟨n, hn, ?_, ?_⟩
    · rw [h3 n hn]; exact (key_inj n.2 x hx (hrange n hn)).mpr hxN
    · rw [h3 n hn]; exact (key_inj n.2 y hy (hrange n hn)).mpr hyN
  · rintro ⟨n, hn, hxn, hyn⟩
    rw [h3 n hn] at hxn hyn
    refine ⟨n.2, by rw [← h2]; exact List.mem_map.mpr ⟨n, hn, rfl⟩, ?_, ?_⟩
    · exact (key_inj n.2 x hx (hrange n hn)).mp hxn
    · exact (key_inj n.2 y hy (hrange n hn)).mp hyn

/-- **C02 (from reads).** For the table built from any read set (empty boundary extensions, K ≥ 4, any summarizer,
    strandedness and hash-map order): the nodes of the compressed graph are exactly the connected components of the
    good-link relation — two accepted k-mers lie in the same node sequence iff a chain of good links joins them. -/
theorem C02_from_reads (K : Nat) (hK : 4 ≤ K) (reads : List (Seq × Exts × Nat)) (hb : Filter.NoBoundary reads)
    (sm : Filter.Summarizer) (st : Bool) (join : Filter.Payload → Filter.Payload → Bool) (hj : ∀ a b, join a b = join b a)
    (reduce : Filter.Payload → Filter.Payload → Filter.Payload) (T : List (Entry Filter.Payload))
    (hp : T.Perm (Filter.removeCensoredExts st (Filter.refTable K reads sm st))) :
    ∃ out, compressKmersC T st join reduce = some out ∧
      ∀ x y, x < T.length → y < T.length →
        (Walk.Conn (linkOf T st join) x y ↔
          ∃ n ∈ out, keyOf T x ∈ (windowsOf K n.1.seq).map (fun w => (canonOf st w).1) ∧
                     keyOf T y ∈ (windowsOf K n.1.seq).map (fun w => (canonOf st w).1)) := by
  obtain ⟨wf, hes⟩ := Filter.pipeline_table_ok K (by omega) reads hb sm st T hp
  exact C02_components_seq reduce wf hes hj

end Compress
