import Dbg.Lemmas.FilterSym
/-! # C05 — K-mer counting/filtering equals reference grouping for any pass count

`C05_filter_eq_ref`: the model `filterKmers` of `filter_kmers` (filter.rs 139-236: pass planning, per-pass bucket
filling, stable sort, run grouping, summarising) equals the pass-free reference grouping `refTable` for every read set and
every memory budget.  The driver evaluates the same reference on the crate's output. -/
namespace Filter
open Compress (Seq Exts Entry)

/-- **C05 (pass planning).** For every memory budget the planned ranges, each cut at 256, enumerate the buckets
    0..255 in ascending order, each exactly once. -/
theorem C05_ranges_tile (slices : Nat) :
    (bucketRanges slices).flatMap (fun p => List.range' p.1 (min p.2 256 - p.1)) = List.range 256 :=
  bucketRanges_enum slices

theorem C05_passes_le (slices : Nat) : (bucketRanges slices).length ≤ 256 := by
  unfold bucketRanges; simpa using rangesFrom_length (256 / slices + 1) 0

theorem C05_range_shape (slices lo hi : Nat) (h : (lo, hi) ∈ bucketRanges slices) :
    lo < 256 ∧ hi = lo + (256 / slices + 1) ∧ lo % (256 / slices + 1) = 0 := by
  unfold bucketRanges at h
  obtain ⟨b, c, q, d⟩ := mem_rangesFrom _ 0 lo hi h
  exact ⟨b, c, by rw [d, Nat.zero_add]; exact Nat.mul_mod_left q _⟩

/-- `CountFilter`: the reported count is the number of observations capped at 65535, the k-mer is accepted iff that is ≥ n -/
theorem C05_count_summary (n : Nat) (obs : List (Exts × Nat)) :
    (summarize (.count n) obs).2.2 = [min obs.length 65535] ∧ ((summarize (.count n) obs).1 = true ↔ n ≤ min obs.length 65535) := by
  simp [summarize, Gen.countSaturation]

/-- **C05 (main theorem).** For every read set and per-read labels, K ≥ 4, both strandedness and report_all values,
    both summarizers and every memory budget ≥ 1 — i.e. every number of bucket passes — the table is exactly the
    reference grouping (distinct canonical k-mers ascending, each summarised once over its observations in input order,
    kept iff the summarizer accepts it) and the all-k-mers list is every distinct k-mer in ascending order. -/
theorem C05_filter_eq_ref (K : Nat) (reads : List (Seq × Exts × Nat)) (sm : Summarizer) (st ra : Bool) (mem bpu sz : Nat)
    (hK : 4 ≤ K) (hm : 1 ≤ mem) (hb : 1 ≤ bpu) :
    ∃ r, filterKmers K reads sm st ra mem bpu sz = some r ∧ r.table = refTable K reads sm st ∧
      r.allKmers = (if ra then refAllKmers K reads st else []) :=
  filterKmers_eq_ref K reads sm st ra mem bpu sz hK hm hb

/-- **C05 (pass independence).** The result does not depend on the memory budget, the bytes per unit or the element size,
    i.e. on how many bucket passes are made. -/
theorem C05_pass_independent (K : Nat) (reads : List (Seq × Exts × Nat)) (sm : Summarizer) (st ra : Bool)
    (m₁ b₁ s₁ m₂ b₂ s₂ : Nat) (hK : 4 ≤ K) (h1 : 1 ≤ m₁) (h2 : 1 ≤ b₁) (h3 : 1 ≤ m₂) (h4 : 1 ≤ b₂) :
    ∃ r₁ r₂, filterKmers K reads sm st ra m₁ b₁ s₁ = some r₁ ∧ filterKmers K reads sm st ra m₂ b₂ s₂ = some r₂ ∧
      r₁.table = r₂.table ∧ r₁.allKmers = r₂.allKmers := by
  obtain ⟨r₁, e1, t1, a1⟩ := C05_filter_eq_ref K reads sm st ra m₁ b₁ s₁ hK h1 h2
  obtain ⟨r₂, e2, t2, a2⟩ := C05_filter_eq_ref K reads sm st ra m₂ b₂ s₂ hK h3 h4
  exact ⟨r₁, r₂, e1, e2, by rw [t1, t2], by rw [a1, a2]⟩

/-- the reference lists every distinct k-mer exactly once, in strictly ascending order -/
theorem C05_keys_ascending (K : Nat) (reads : List (Seq × Exts × Nat)) (st : Bool) :
    (refAllKmers K reads st).Pairwise (· < ·) ∧
    ∀ k, k ∈ refAllKmers K reads st ↔ ∃ o ∈ observations K reads st, o.1 = k := by
  rw [refAllKmers_eq]; exact distinctKeys_spec (observations K reads st)

/-- **C05 (extensions are the observed flanks).** With empty boundary extensions, an entry of the table records
    base `b` on side `d` exactly when its k-mer occurs in some read (as spelled or, unstranded, as the reverse
    complement of what is spelled) with `b` next to it on that side (`Occ`); palindromic k-mers excepted
    (their two strands coincide, so both orientations of every occurrence are recorded). -/
theorem C05_exts_are_flanks (K : Nat) (hK : 1 ≤ K) (reads : List (Seq × Exts × Nat)) (hb : NoBoundary reads) (sm : Summarizer) (st : Bool)
    (e : Entry Payload) (he : e ∈ refTable K reads sm st) (hp : (!st && Compress.isPalindrome e.key) = false)
    (d : Walk.Dir) (b : Compress.Base) : has e.exts d b ↔ Occ K reads st e.key d b := by
  constructor
  · exact table_occ K hK reads hb sm st e he d b
  · intro h
    obtain ⟨x, hx⟩ := List.mem_iff_getElem?.mp he
    have wf := refTable_wf K hK reads hb sm st
    have hc := Compress.canonSt_self (st := st) (x := e.key) (fun hst => wf.canon hst x e hx) hp
    have := occ_table K hK reads hb sm st e.key d b h e he false hc hp
    simpa [Compress.condFlip] using this

/-- **C05 (the table is well-formed and reciprocal).** What `filter_kmers` delivers from reads with empty boundary
    extensions — also after `remove_censored_exts` and in any order (the hash map's) — satisfies the hypotheses of the
    graph-construction theorems (C01, C02, C09): keys of length K, distinct, canonical; extensions reciprocal. -/
theorem C05_table_wf (K : Nat) (hK : 1 ≤ K) (reads : List (Seq × Exts × Nat)) (hb : NoBoundary reads) (sm : Summarizer) (st : Bool)
    (T : List (Entry Payload)) (hp : T.Perm (removeCensoredExts st (refTable K reads sm st))) :
    Compress.WF T K st ∧ Compress.ExtSym T st := pipeline_table_ok K hK reads hb sm st T hp

/-- the hypotheses are those of every real call: K ≥ 4 (Kmer4 is the smallest type `bucket` can read), memory_size ≥ 1 -/
example : (4 : Nat) ≤ 5 ∧ (1 : Nat) ≤ 1 := by decide

end Filter
